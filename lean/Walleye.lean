import Walleye.Model.Types
import Walleye.Generated.Consts
import Walleye.Props.C01
import Walleye.Props.C02
import Walleye.Props.C03
import Walleye.Props.C04
import Walleye.Props.C05
import Walleye.Props.C06
import Walleye.Props.C07
import Walleye.Props.C08
import Walleye.Props.C09
import Walleye.Props.C10
import Walleye.Props.C11
import Walleye.Props.C12
import Walleye.Props.C13
import Walleye.Props.C14
import Walleye.Props.C15
import Walleye.Props.C16
import Walleye.Props.C17
import Walleye.Props.C18
