/-
  C10 — repetition counts are exact and a third occurrence is scored as a draw.
  Keys are 64-bit; "position" means "key" here (trusted base item 7).
-/
import Walleye.Proofs.AbSpec
import Walleye.Proofs.RootNonneg
import Walleye.Proofs.NonnegRun
import Walleye.Model.SearchChess
import Walleye.Model.UciText
namespace Walleye
open DrawTable

/-- the keys of the positions reached by replaying `ms` from `p` (none: a move text panics) -/
def keysAlong (h : Hasher) : Pos → List (List Char) → Option (List UInt64)
  | _, [] => some []
  | p, m :: ms =>
    match makeMove h p m with
    | none => none
    | some p' => (keysAlong h p' ms).map (p'.key :: ·)

/-- after replaying a move list the table holds, for every key, its previous count plus the number
    of times it occurred along the way (no count reached 256) -/
theorem table_after_moves (h : Hasher) (p p' : Pos) (t t' : DrawTable) (ms : List (List Char))
    (hp : playMoves h p t ms = some (p', t')) :
    ∃ ks, keysAlong h p ms = some ks ∧ ∀ k, count t' k = count t k + ks.count k := by
  induction ms generalizing p t with
  | nil => cases hp; exact ⟨[], rfl, fun k => by simp⟩
  | cons m ms ih =>
    rw [playMoves_cons] at hp
    obtain ⟨q, hm, hp⟩ := Option.bind_eq_some_iff.mp hp
    obtain ⟨t1, ha, hp⟩ := Option.bind_eq_some_iff.mp hp
    obtain ⟨ks, hks, hc⟩ := ih q t1 hp
    refine ⟨q.key :: ks, by simp [keysAlong, hm, hks], fun k => ?_⟩
    rw [hc k, count_add ha k, List.count_cons]
    simp only [beq_iff_eq]
    omega

/-- `ms`: what follows the token `moves`; `start`: the position the FEN part loads, left existential -/
theorem table_after_position_keys (h : Hasher) (cmds : List (List Char)) (p : Pos) (t : DrawTable)
    (hp : playOutPosition h cmds = some (p, t)) (ms : List (List Char))
    (hms : ms = ((cmds.findIdx? (· = "moves".toList)).map fun i => cmds.drop (i + 1)).getD []) :
    ∃ (start : Pos) (ks : List UInt64), keysAlong h start ms = some ks ∧
      playMoves h start (DrawTable.insert [] start.key 1) ms = some (p, t) ∧
      ∀ k, count t k = (start.key :: ks).count k := by
  subst hms
  unfold playOutPosition at hp
  cases h1 : cmds[1]? with
  | none => simp [h1] at hp
  | some c1 =>
    simp only [h1] at hp
    split at hp
    · cases hp
    · rename_i start hstart
      cases hi : cmds.findIdx? (· = "moves".toList) with
      | none =>
        simp only [hi, Option.some.injEq, Prod.mk.injEq] at hp
        obtain ⟨rfl, rfl⟩ := hp
        refine ⟨start, [], rfl, rfl, fun k => ?_⟩
        rw [count_insert, List.count_cons]
        simp only [beq_iff_eq, List.count_nil, count, lookup, Option.getD_none]
        omega
      | some i =>
        simp only [hi] at hp
        obtain ⟨ks, hks, hc⟩ := table_after_moves h start p _ t _ hp
        refine ⟨start, ks, hks, hp, fun k => ?_⟩
        rw [hc k, count_insert, List.count_cons]
        simp only [beq_iff_eq, count, lookup, Option.getD_none]
        omega

/-- `position …` builds its table from the command alone: start position once, then the moves -/
theorem table_after_position (h : Hasher) (cmds : List (List Char)) (p : Pos) (t : DrawTable)
    (hp : playOutPosition h cmds = some (p, t)) :
    ∃ (start : Pos) (ks : List UInt64), ∀ k, count t k = (start.key :: ks).count k :=
  let ⟨start, ks, _, _, hc⟩ := table_after_position_keys h cmds p t hp _ rfl
  ⟨start, ks, hc⟩

/-- nothing of an earlier `position` command survives: the result is a function of the command -/
theorem position_resets (h : Hasher) (cmds : List (List Char)) :
    ∀ t1 t2 : DrawTable, (fun (_ : DrawTable) => playOutPosition h cmds) t1 = (fun _ => playOutPosition h cmds) t2 :=
  fun _ _ => rfl

variable {P O : Type} (g : Game P) (ord : Oracle P O)

/-- a move into a position that has already occurred at least twice (game + current line) is
    valued as a draw at once, before anything else is looked at -/
theorem repeated_child_is_draw (fuel : Nat) (c : P) (d ply : Nat) (a b : Int) (n : Bool) (s s1 : SS P O)
    (ht : tick s = .ok false s1) (hrep : count s.table (g.key c) ≥ 2) :
    ∃ s2, alphaBeta g ord (fuel + 1) c d ply a b n s = .ok 0 s2 ∧ s2.table = s.table ∧ s2.reports = s.reports := by
  obtain ⟨rfl, hx⟩ := tick_ok ht
  exact alphaBeta_repeated g ord fuel c d ply a b n s hx.symm hrep

/-- under a clock that does not expire every iteration, of any depth, runs to its end, and if some root
    move leads to a position that has already occurred at least twice it ends with a score ≥ 0
    (every game, every oracle): alpha never falls and the repeated child is valued 0 -/
theorem root_score_nonneg_no_expiry (fuel curDepth : Nat) (first : P) (t : DrawTable) (l : List P)
    (best : Option P) (m : P) (hm : m ∈ l) (hrep : t.isThreefold (g.key m) = true) :
    Triple (St t) (rootLoop g ord (fuel + 1) curDepth first l (-Gen.posInf) best)
      (fun r _ => ∃ A B, r = some (A, B) ∧ 0 ≤ A) := by
  refine ⟨fun s r s' hst he => ?_⟩
  obtain ⟨⟨A, B⟩, rfl⟩ := rootLoop_never_none g ord hst.1 he
  have hnx : s'.expired = false := by
    unfold SS.expired; rw [(rootLoop_run_le g ord he).2.1, hst.1]
  exact ⟨A, B, rfl, (rootLoop_nonneg g ord hst.2 he hnx).2 ⟨m, hm, hrep⟩⟩

/-- `root_score_nonneg_no_expiry` for iterations 1–3, every game with bounded evaluation and every permuting
    oracle: premises it does not need -/
theorem root_score_nonneg_upto3 (E : Nat) (hg : GameOK g E) (hord : OrdPerm ord) (fuel curDepth : Nat) (first : P)
    (t : DrawTable) (hcd : curDepth - 1 < 3) (hE : (E : Int) + 1 + (fuel + 1) < Gen.mateScore) (l : List P)
    (best : Option P) (m : P) (hm : m ∈ l) (hrep : t.isThreefold (g.key m) = true) :
    Triple (St t) (rootLoop g ord (fuel + 1) curDepth first l (-Gen.posInf) best)
      (fun r _ => ∃ A B, r = some (A, B) ∧ 0 ≤ A) :=
  root_score_nonneg_no_expiry g ord fuel curDepth first t l best m hm hrep

/-- **second sentence of C10 at EVERY iteration depth and under EVERY clock** (every game, every
    ordering oracle — permuting or not —, null-move pruning and re-searches included): if one
    iteration of the root loop of `get_best_move` runs through its whole move list (`some (A, B)`)
    and the clock has not expired by then — a completed depth —, and some root move leads to a
    position whose key the repetition record already holds at least twice, then the final score `A`
    of that depth is ≥ 0, and `A` is the score on the last `info` line the iteration printed (all of
    whose lines carry this depth).  Reason: alpha never decreases in the root loop and the repeated
    child is valued 0 by its own call before anything else is looked at. -/
theorem root_score_nonneg_every_depth (fuel curDepth : Nat) (first : P) (t : DrawTable) (l : List P)
    (best : Option P) (s s' : SS P O) (A : Int) (B : Option P) (hs : TableEq s.table t)
    (hrun : rootLoop g ord (fuel + 1) curDepth first l (-Gen.posInf) best s = .ok (some (A, B)) s')
    (hnx : s'.expired = false) (m : P) (hm : m ∈ l) (hrep : t.isThreefold (g.key m) = true) :
    0 ≤ A ∧ ∃ new : List (Report P), s'.reports.toList = s.reports.toList ++ new ∧
      (∀ i ∈ infos new, i.depth = curDepth) ∧ (infos new).getLast?.map Info.eval = some A := by
  have h0 := (rootLoop_nonneg g ord hs hrun hnx).2 ⟨m, hm, hrep⟩
  obtain ⟨new, h1, h2, h3⟩ := rootLoop_last_info g ord hrun
  refine ⟨h0, new, h1, h2, ?_⟩
  rcases h3 with ⟨_, hA⟩ | h3
  · have := posInf_eq
    omega
  · exact h3

/-- and alpha never decreases over a root loop that ends before the clock expires -/
theorem root_alpha_monotone (fuel curDepth : Nat) (first : P) (t : DrawTable) (l : List P) (alpha : Int)
    (best : Option P) (s s' : SS P O) (A : Int) (B : Option P) (hs : TableEq s.table t)
    (hrun : rootLoop g ord (fuel + 1) curDepth first l alpha best s = .ok (some (A, B)) s')
    (hnx : s'.expired = false) : alpha ≤ A :=
  (rootLoop_nonneg g ord hs hrun hnx).1

/-- **C10, second sentence, for a WHOLE run of `get_best_move`** — every game whose ordering tag does
    not change the key, every clock expiry, every ordering oracle that permutes, at every point of the
    run and whatever its outcome: if some root move leads to a position the repetition record already
    holds twice, then for every depth d ≥ 1 that the run completed (it went on to report a line of a
    larger depth) there is a line of depth d with a score ≥ 0.  Lines of one depth carry strictly
    increasing scores (`info_stream_is_ordered`, Props/C18), so the LAST line of every completed depth —
    the engine's final score for that depth — is ≥ 0. -/
theorem final_scores_of_completed_depths_are_nonneg (hperm : OrdPerm ord)
    (hkey : ∀ x v, g.key (g.withOh x v) = g.key x) (fuel : Nat) (root : P) (t : DrawTable) (s : SS P O)
    (hs : s.reports = #[]) (hte : TableEq s.table t) (m : P) (hm : m ∈ g.gen root .all)
    (hrep : t.isThreefold (g.key m) = true) :
    ∀ d, 1 ≤ d → (∃ i ∈ infosOf (outState (getBestMove g ord (fuel + 1) root s)).reports, d < i.depth) →
      ∃ j ∈ infosOf (outState (getBestMove g ord (fuel + 1) root s)).reports, j.depth = d ∧ 0 ≤ j.eval :=
  getBestMove_completedNonneg g ord hperm hkey fuel root t s hs hte m hm hrep

/-- the chess instance: re-tagging a successor as the PV node does not touch its key -/
theorem chess_final_scores_of_completed_depths_are_nonneg {O : Type} (h : Hasher) (ord : Oracle Pos O)
    (hperm : OrdPerm ord) (fuel : Nat) (root : Pos) (t : DrawTable) (s : SS Pos O)
    (hs : s.reports = #[]) (hte : TableEq s.table t) (m : Pos) (hm : m ∈ generateMoves h root .all)
    (hrep : t.isThreefold m.key = true) :
    ∀ d, 1 ≤ d → (∃ i ∈ infosOf (outState (getBestMove (chessGame h) ord (fuel + 1) root s)).reports, d < i.depth) →
      ∃ j ∈ infosOf (outState (getBestMove (chessGame h) ord (fuel + 1) root s)).reports, j.depth = d ∧ 0 ≤ j.eval :=
  final_scores_of_completed_depths_are_nonneg (chessGame h) ord hperm (fun _ _ => rfl) fuel root t s hs hte m hm hrep

/-- the fix of 4553a5f: also a FOURTH, fifth … occurrence is a draw (`>= 2`, not `== 2`) -/
example : DrawTable.isThreefold [(7, 5)] 7 = true := by decide

end Walleye
