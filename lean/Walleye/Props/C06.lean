/-
  C06 — check detection agrees with the rules for both sides.
  Status: PROVED at full strength for the model (`check_detection_is_the_rules`): for every mailbox
  with the sentinel ring in place, no sentinel on the 64 inner squares and the two king caches
  pointing at the one king of each colour, `isCheck p c = Spec.inCheck (abs p) c` for both colours —
  Spec.inCheck being the rules of movement on the 8x8 board (sliders stopped by the first piece,
  pawns diagonally forward, knights, adjacent king).  The proof goes through the declarative mailbox
  relation `AttackedM` (Proofs/Check: `isCheckCords_iff`, any probed square — also the castling
  transit squares) and the bridge Proofs/CheckSpec (`attacked_iff_AttackedM`).  The tie of the model
  to the Rust code is the correspondence run (check lattice: king x attacker kind x attacker square
  x blocker, both colours, every pair of adjacent kings, all playout positions).
  Also proved: the ray walk stops at the first non-empty square and only passes
  empty squares (`ray_walk_passes_only_empties`), so a slider behind a blocker is never seen; the
  probes are side-symmetric in the sense that an adjacent enemy king always gives check, for both
  colours and for any probed square (`adjacent_king_gives_check`); a knight / pawn on a probe
  square gives check (`knight_probe_hit`, `pawn_probe_hit_white`); the three are readings of `probe_hit`
  (Proofs/Check).
-/
import Walleye.Proofs.CheckSpec
import Walleye.Proofs.Start
import Walleye.Props.C02
import Walleye.Proofs.FenFaithful
namespace Walleye

/-- every square the walk passes before it stops is empty -/
theorem ray_walk_passes_only_empties (b : Board) (dr dc : Int) (fuel : Nat) (r c : Int) :
    ∀ pt ∈ (walk b dr dc fuel r c []).1, (b.get pt.row pt.col).isEmpty = true :=
  (walk_spec b dr dc fuel r c).1

/-- the square the walk reports is the content of the point it reports (or a sentinel) -/
theorem ray_walk_hit (b : Board) (dr dc : Int) (fuel : Nat) (r c : Int) :
    (walk b dr dc fuel r c []).2.2 ≠ .boundary →
      (walk b dr dc fuel r c []).2.2 = b.get (walk b dr dc fuel r c []).2.1.row (walk b dr dc fuel r c []).2.1.col :=
  (walk_spec b dr dc fuel r c).2

/-- an enemy king next to the probed square gives check — for either colour, any probed square
    (this is the clause the castling defect b8b9690 violated for squares other than the king's) -/
theorem adjacent_king_gives_check (p : Pos) (c : Color) (sq : Point)
    (hadj : match c with
      | .white => ((p.bk.row : Int) - sq.row).natAbs ≤ 1 ∧ ((p.bk.col : Int) - sq.col).natAbs ≤ 1
      | .black => ((p.wk.row : Int) - sq.row).natAbs ≤ 1 ∧ ((p.wk.col : Int) - sq.col).natAbs ≤ 1) :
    isCheckCords p c sq = true :=
  probe_hit p c sq (.inr (.inr (by cases c <;> exact hadj)))

/-- an enemy knight on one of the eight knight offsets gives check -/
theorem knight_probe_hit (p : Pos) (c : Color) (sq : Point) (rc : Int × Int) (hrc : rc ∈ Gen.knightCords)
    (hk : (p.board.getI ((sq.row : Int) + rc.1) ((sq.col : Int) + rc.2)).isPiece ⟨c.opp, .knight⟩ = true) :
    isCheckCords p c sq = true :=
  probe_hit p c sq (.inl ⟨rc, hrc, hk⟩)

/-- an enemy pawn diagonally in front (from the defender's point of view) gives check -/
theorem pawn_probe_hit_white (p : Pos) (sq : Point)
    (hp : (p.board.get (sq.row - 1) (sq.col - 1)).isPiece ⟨.black, .pawn⟩ = true ∨
          (p.board.get (sq.row - 1) (sq.col + 1)).isPiece ⟨.black, .pawn⟩ = true) :
    isCheckCords p .white sq = true :=
  probe_hit p .white sq (.inr (.inl hp))

/-- C06, full statement on the model -/
theorem check_detection_is_the_rules (p : Pos) (hr : RingOK p.board) (hi : InnerOK p.board)
    (hk : KingsOK p) (c : Color) : isCheck p c = Spec.inCheck (abs p) c :=
  isCheck_eq_inCheck p hr hi hk c

/-- the attack test on ANY probed square (castling transit squares included) is the declarative
    attack relation of the mailbox -/
theorem probe_is_attack_relation (p : Pos) (hr : RingOK p.board) (c : Color) (t : Point) (ht : OnBoard t) :
    isCheckCords p c t = true ↔
      AttackedM p.board c.opp t (match c with | .white => p.bk | .black => p.wk) :=
  isCheckCords_iff p hr c t ht

/-- the premises are satisfiable: the initial position meets them -/
theorem start_premises : RingOK startPosition.board ∧ InnerOK startPosition.board ∧ KingsOK startPosition :=
  ⟨start_wf.ring, start_wf.inner, start_wf.kings⟩

/-- **C06 at every position of every game**: the premises are preserved by the generator, so check
    detection is the rules at every position reachable by generated moves from a well-formed one -/
theorem check_detection_along_chains (h : Hasher) (p q : Pos) (wf : WFp p) (hinv : Inv h p) (hc : GenChain h p q)
    (c : Color) : isCheck q c = Spec.inCheck (abs q) c := by
  have wfq := (gen_chain_wf h p q wf hinv hc).1
  exact isCheck_eq_inCheck q wfq.ring wfq.inner wfq.kings c

/-- … and for every legal position given as FEN and everything reachable from it -/
theorem check_detection_from_every_fen_position (h : Hasher) (P : Spec.Position) (hsz : P.cells.size = 64)
    (hlegal : Spec.LegalPosition P = true) (half full : List Char) (hh : CounterOK half) (hf : CounterOK full) :
    ∃ p, fromFen h (canonText P half full) = .ok p ∧ abs p = P ∧
      ∀ q, GenChain h p q → ∀ c, isCheck q c = Spec.inCheck (abs q) c := by
  obtain ⟨p, hload, habs, wf, hinv⟩ := fromFen_legal h P hsz hlegal half full hh hf
  exact ⟨p, hload, habs, fun q hc c => check_detection_along_chains h p q wf hinv hc c⟩

end Walleye
