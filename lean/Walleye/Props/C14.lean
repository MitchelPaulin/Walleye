/-
  C14 — static evaluation is colour-symmetric, side-relative and bounded.
  The evaluation is five sums of per-square contributions; each clause is read off a fact about
  those sums (Proofs/Eval.lean, where the arguments are).  All statements quantify over every board
  (any material, legal or not); the tables are the ones regenerated from evaluation.rs (T1).
-/
import Walleye.Proofs.Eval
namespace Walleye

/-- the result depends on nothing but the 64 squares and the side to move -/
theorem eval_depends (p q : Pos)
    (hb : ∀ pt ∈ evalCoords, p.board.get pt.row pt.col = q.board.get pt.row pt.col)
    (hs : p.toMove = q.toMove) : getEvaluation p = getEvaluation q := by
  rw [getEvaluation_eq, getEvaluation_eq, hs, sums_congr hb]

/-- the same placement with the other side to move: negated -/
theorem eval_flip_side (p : Pos) :
    getEvaluation { p with toMove := p.toMove.opp } = - getEvaluation p := by
  rw [getEvaluation_eq, getEvaluation_eq]
  exact evalFinish_opp _ _

/-- colour mirror: ranks flipped, colours swapped (`mirrorBoard`, Proofs/Eval), side swapped -/
def mirrorPos (p : Pos) : Pos := { p with board := mirrorBoard p.board, toMove := p.toMove.opp }

/-- evaluating a position and its colour-mirrored twin gives the same number — for ANY tables -/
theorem eval_mirror (p : Pos) : getEvaluation (mirrorPos p) = getEvaluation p := by
  rw [getEvaluation_eq, getEvaluation_eq]
  show evalFinish (sums (mirrorBoard p.board)) p.toMove.opp = _
  rw [sums_mirror, evalFinish_swap]

/-- for EVERY board (any material, any squares) the evaluation stays below 64·1100 = 70 400,
    far from the mate range that starts at MATE_SCORE − 15 -/
theorem eval_bound (p : Pos) : (getEvaluation p).natAbs ≤ 70400 := by
  have := getEvaluation_bound p
  omega

/-- so a material evaluation can never be mistaken for, or outrank, a mate score -/
theorem eval_below_mate_range (p : Pos) :
    -(Gen.mateScore - Gen.mateWindow) < getEvaluation p ∧ getEvaluation p < Gen.mateScore - Gen.mateWindow := by
  have := eval_bound p
  simp only [Gen.mateScore, Gen.mateWindow]
  omega

/-! ### non-vacuity: the mirror of a concrete position is a different position with the same value -/
example : (mirrorBoard ((default : Board).set 3 4 (Square.full ⟨.white, .queen⟩))).get 8 4
    = Square.full ⟨.black, .queen⟩ := by
  unfold mirrorBoard
  rw [Board.get_ofFn _ _ _ (by omega) (by omega), Board.get_set_eq _ _ _ _ (by omega) (by omega)]
  rfl

end Walleye
