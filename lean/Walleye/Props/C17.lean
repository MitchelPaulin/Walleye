/-
  C17 — unknown input is ignored and the process lifecycle is clean (logic of the dispatch loop;
  promptness of exit and the real process are observed black-box).
  Also the equations of `step`, one per command word, on which C08, C16 and C03 rest; the dispatcher run
  over a list of lines (`runLines`); what `clean_input` lets through; the whole `go` line as a list of known
  pairs and unknown tokens; and standard input as a byte stream: the process on the bytes is the dispatcher
  on the lines read from them (`runStream_eq_runEvents`), so it always ends by itself, and with `exit 0` when
  every line was served.
  Four runners iterate the one `step`: `run` (Props/C16, independence of history), `runLines` (the whole-session
  theorems of Props/C03), `runEvents` and `runStream` (Model/Uci; the stream theorems here); only
  `runStream_eq_runEvents` relates two of them.
-/
import Walleye.Model.Uci
namespace Walleye
open Str

variable (h : Hasher) (search : Pos → DrawTable → Nat → Option Pos)

/-- a line whose first token is not a known command changes nothing and prints nothing -/
theorem unknown_ignored (σ : Sess) (raw : List Char)
    (hu : String.ofList ((splitOn ' ' (cleanInput raw)).headD []) ∉ knownCommands) :
    step h search σ (some raw) = .cont σ [] := by
  unfold step
  simp only [knownCommands, List.mem_cons, List.not_mem_nil, or_false, not_or] at hu
  obtain ⟨h1, h2, h3, h4, h5, h6⟩ := hu
  simp only [h1, h2, h3, h4, h5, h6, if_false]

/-- `isready` is always answered with `readyok`, and the state is untouched -/
theorem isready_answered (σ : Sess) (raw : List Char)
    (hc : String.ofList ((splitOn ' ' (cleanInput raw)).headD []) = "isready") :
    step h search σ (some raw) = .cont σ ["readyok"] := by
  unfold step; simp only [hc, if_true]

theorem quit_terminates (σ : Sess) (raw : List Char)
    (hc : String.ofList ((splitOn ' ' (cleanInput raw)).headD []) = "quit") :
    step h search σ (some raw) = .exit 1 := by
  unfold step; simp +decide only [hc, if_true, if_false]

/-- end of input ends the process (the defect fixed in e69300b: the loop spun forever) -/
theorem eof_terminates (σ : Sess) : step h search σ none = .exit 0 := rfl

/-- `ucinewgame` and `setoption` keep the state -/
theorem ignored_commands_keep_state (σ : Sess) (raw : List Char)
    (hc : String.ofList ((splitOn ' ' (cleanInput raw)).headD []) = "ucinewgame" ∨
          String.ofList ((splitOn ' ' (cleanInput raw)).headD []) = "setoption") :
    step h search σ (some raw) = .cont σ [] := by
  unfold step
  cases hc with
  | inl e => simp +decide only [e, if_true, if_false]
  | inr e => simp +decide only [e, if_true, if_false]

/-- `position`: the right side does not mention `σ` — the old state is overwritten as a whole -/
theorem step_position (σ : Sess) (raw : List Char)
    (hc : String.ofList ((splitOn ' ' (cleanInput raw)).headD []) = "position") :
    step h search σ (some raw) =
      match playOutPosition h (splitOn ' ' (cleanInput raw)) with
      | some (p, t) => .cont ⟨p, t⟩ []
      | none => .panic := by
  unfold step; simp +decide only [hc, if_true, if_false]; rfl

theorem step_go (σ : Sess) (raw : List Char)
    (hc : String.ofList ((splitOn ' ' (cleanInput raw)).headD []) = "go") :
    step h search σ (some raw) =
      match parseGoCommand (splitOn ' ' (cleanInput raw)) with
      | none => .panic
      | some gt =>
        if (generateMoves h σ.board .all).isEmpty then .cont σ ["bestmove 0000"]
        else match search σ.board σ.table (calculateTimeSlice gt σ.board.toMove) with
          | some b =>
            (match bestmoveLine b with
             | some l => .cont { σ with board := b } [String.ofList l]
             | none => .panic)
          | none => .hang := by
  unfold step; simp +decide only [hc, if_true, if_false]; rfl

theorem step_go_cont {σ σ' : Sess} {raw : List Char} {out : List String}
    (hc : String.ofList ((splitOn ' ' (cleanInput raw)).headD []) = "go")
    (hs : step h search σ (some raw) = .cont σ' out) :
    ∃ gt, parseGoCommand (splitOn ' ' (cleanInput raw)) = some gt ∧
      ((generateMoves h σ.board .all = [] ∧ σ' = σ ∧ out = ["bestmove 0000"]) ∨
       (generateMoves h σ.board .all ≠ [] ∧ ∃ b t,
          search σ.board σ.table (calculateTimeSlice gt σ.board.toMove) = some b ∧ moveText b = some t ∧
          σ' = { σ with board := b } ∧ out = [String.ofList ("bestmove ".toList ++ t)])) := by
  rw [step_go h search σ raw hc] at hs
  cases hp : parseGoCommand (splitOn ' ' (cleanInput raw)) with
  | none => rw [hp] at hs; cases hs
  | some gt =>
    refine ⟨gt, rfl, ?_⟩
    simp only [hp] at hs
    split at hs
    · cases hs; exact .inl ⟨List.isEmpty_iff.mp ‹_›, rfl, rfl⟩
    · refine .inr ⟨fun h0 => ‹¬ _› (List.isEmpty_iff.mpr h0), ?_⟩
      split at hs
      · rename_i b hb
        unfold bestmoveLine at hs
        cases ht : moveText b with
        | none => rw [ht] at hs; cases hs
        | some t => rw [ht] at hs; cases hs; exact ⟨b, t, hb, ht, rfl, rfl⟩
      · cases hs

/-- run a list of raw lines through the dispatcher, collecting the output of each -/
def runLines (h : Hasher) (search : Pos → DrawTable → Nat → Option Pos) : Sess → List (List Char) → Option (Sess × List (List String))
  | σ, [] => some (σ, [])
  | σ, raw :: rest =>
    match step h search σ (some raw) with
    | .cont σ' out => (runLines h search σ' rest).map fun r => (r.1, out :: r.2)
    | _ => none

theorem runLines_cons {σ σ' : Sess} {raw : List Char} {rest : List (List Char)} {outs : List (List String)}
    (hrun : runLines h search σ (raw :: rest) = some (σ', outs)) :
    ∃ σ1 out outs', step h search σ (some raw) = .cont σ1 out ∧ runLines h search σ1 rest = some (σ', outs') ∧
      outs = out :: outs' := by
  unfold runLines at hrun
  split at hrun
  · rename_i σ1 out hst
    obtain ⟨r, hr, he⟩ := Option.map_eq_some_iff.mp hrun
    cases he
    exact ⟨σ1, out, r.2, hst, hr, rfl⟩
  · cases hrun

theorem trimStart_sublist (s : List Char) : (trimStart s).Sublist s := by
  induction s with
  | nil => exact .slnil
  | cons x xs ih =>
    unfold trimStart
    split
    · exact ih.cons x
    · exact .refl _

theorem trim_sublist (s : List Char) : (trim s).Sublist s :=
  (trimStart_sublist _).reverse.trans (by rw [List.reverse_reverse]; exact trimStart_sublist s)

/-- every whitespace character of the cleaned line is a plain blank: tabs, CR, NBSP … never survive
    (so that `split(' ')` in the dispatcher sees every token) -/
theorem clean_only_blanks (buf : List Char) : ∀ c ∈ cleanInput buf, isWs c = true → c = ' ' := by
  intro c hc
  replace hc := List.mem_reverse.mp ((trim_sublist _).subset hc)
  revert c
  -- invariant of the fold: every whitespace character pushed so far is a blank
  apply List.foldlRecOn (motive := fun (acc : List Char × Char) => ∀ c ∈ acc.1, isWs c = true → c = ' ')
  · nofun
  · intro acc ha y _
    split
    · rename_i hy
      exact List.forall_mem_cons.mpr ⟨fun hw => by simp [hw] at hy, ha⟩
    · split
      · exact List.forall_mem_cons.mpr ⟨fun _ => rfl, ha⟩
      · exact ha


/-- one item of a `go` line: a clock / increment keyword with its value token, `movestogo` with its
    value token, or a single token the engine does not know -/
inductive GoItem where
  | wtime (tok : List Char) (v : Int)
  | btime (tok : List Char) (v : Int)
  | winc (tok : List Char) (v : Int)
  | binc (tok : List Char) (v : Int)
  | movestogo (tok : List Char) (n : Nat)
  | junk (tok : List Char)

def GoItem.tokens : GoItem → List (List Char)
  | .wtime t _ => ["wtime".toList, t]
  | .btime t _ => ["btime".toList, t]
  | .winc t _ => ["winc".toList, t]
  | .binc t _ => ["binc".toList, t]
  | .movestogo t _ => ["movestogo".toList, t]
  | .junk t => [t]

/-- the value token really is the text of the value; an unknown token is none of the five keywords -/
def GoItem.OK : GoItem → Prop
  | .wtime t v => parseI128 t = some v
  | .btime t v => parseI128 t = some v
  | .winc t v => parseI128 t = some v
  | .binc t v => parseI128 t = some v
  | .movestogo t n => parseUnsigned 32 t = some n
  | .junk t => t ≠ "wtime".toList ∧ t ≠ "btime".toList ∧ t ≠ "binc".toList ∧ t ≠ "winc".toList ∧ t ≠ "movestogo".toList

/-- what the line means: every keyword sets its field, later occurrences override earlier ones,
    unknown tokens mean nothing -/
def GoItem.apply (gt : GameTime) : GoItem → GameTime
  | .wtime _ v => { gt with wtime := v }
  | .btime _ v => { gt with btime := v }
  | .winc _ v => { gt with winc := v }
  | .binc _ v => { gt with binc := v }
  | .movestogo _ n => { gt with movestogo := some n }
  | .junk _ => gt

theorem GoItem.tokens_pos (it : GoItem) : 0 < it.tokens.length := by
  cases it <;> exact Nat.succ_pos _

theorem parseGoAux_nil (fuel : Nat) (gt : GameTime) : parseGoAux fuel [] gt = some gt := by
  cases fuel <;> rfl

/-- unknown tokens inside `go` are skipped: a token that is none of the five keywords does not change
    the parse of what follows it (as the very last token it ends the loop) -/
theorem go_unknown_token_skipped (fuel : Nat) (tok : List Char) (rest : List (List Char)) (gt : GameTime)
    (hu : GoItem.OK (.junk tok)) :
    parseGoAux (fuel + 1) (tok :: rest) gt = parseGoAux fuel rest gt := by
  obtain ⟨h1, h2, h3, h4, h5⟩ := hu
  cases rest with
  | nil => exact (parseGoAux_nil fuel gt).symm
  | cons nxt tl => simp only [parseGoAux, h1, h2, h3, h4, h5, if_false]

theorem parseGoAux_item (it : GoItem) (hit : it.OK) (fuel : Nat) (rest : List (List Char)) (gt : GameTime) :
    parseGoAux (fuel + 1) (it.tokens ++ rest) gt = parseGoAux fuel rest (it.apply gt) := by
  cases it with
  | junk t => exact go_unknown_token_skipped fuel t rest gt hit
  | _ t v =>
    -- the keyword tests in front of the right one are decided; the value token parses by `hit`
    simp +decide only [GoItem.tokens, GoItem.apply, List.cons_append, List.nil_append, parseGoAux,
      if_true, if_false, show _ = some v from hit, Option.bind_some]

theorem parseGoAux_items (items : List GoItem) (hok : ∀ it ∈ items, it.OK) :
    ∀ (fuel : Nat) (gt : GameTime), (items.flatMap GoItem.tokens).length ≤ fuel →
      parseGoAux fuel (items.flatMap GoItem.tokens) gt = some (items.foldl GoItem.apply gt) := by
  induction items with
  | nil => intro fuel gt _; exact parseGoAux_nil fuel gt
  | cons it rest ih =>
    intro fuel gt hf
    obtain ⟨hit, hrest⟩ := List.forall_mem_cons.mp hok
    rw [List.flatMap_cons, List.length_append] at hf
    have := it.tokens_pos
    cases fuel with
    | zero => omega
    | succ n =>
      rw [List.flatMap_cons, parseGoAux_item it hit, List.foldl_cons]
      exact ih hrest n _ (by omega)

/-- **the `go` line**: keywords with their values and unknown tokens in ANY order and number — the
    parse is the fold of the known pairs (a later occurrence overrides an earlier one), unknown tokens
    are skipped wherever they stand, also between pairs and at the end -/
theorem go_line_is_parsed_as_its_known_pairs (items : List GoItem) (hok : ∀ it ∈ items, it.OK) :
    parseGoCommand ("go".toList :: items.flatMap GoItem.tokens) = some (items.foldl GoItem.apply {}) :=
  -- `go` itself is the first unknown token
  parseGoAux_items (.junk "go".toList :: items)
    (List.forall_mem_cons.mpr ⟨by unfold GoItem.OK; decide, hok⟩) _ {} (Nat.le_succ _)


/-- non-vacuity: `go foo wtime 5 bar movestogo 7 wtime 9 baz` — unknown tokens anywhere, `wtime` twice -/
example : parseGoCommand ("go".toList :: ([GoItem.junk "foo".toList, .wtime "5".toList 5, .junk "bar".toList,
      .movestogo "7".toList 7, .wtime "9".toList 9, .junk "baz".toList].flatMap GoItem.tokens)) =
    some { wtime := 9, movestogo := some 7 } := by decide


theorem readLine_append (inp : List Char) : (readLine inp).1 ++ (readLine inp).2 = inp := by
  induction inp with
  | nil => rfl
  | cons c rest ih =>
    unfold readLine
    split
    · rfl
    · exact congrArg (c :: ·) ih

/-- a line is read whenever a single byte is left — complete, blank, whitespace only or unterminated -/
theorem readLine_nonempty (inp : List Char) (h : inp ≠ []) : (readLine inp).1 ≠ [] := by
  cases inp with
  | nil => exact absurd rfl h
  | cons c rest => unfold readLine; split <;> nofun

theorem readFromGui_some {inp : List Char} {r : List Char × List Char} (h : readFromGui inp = some r) :
    r.1 ≠ [] ∧ r.1 ++ r.2 = inp := by
  unfold readFromGui at h
  simp only at h
  split at h
  · cases h
  · cases h
    exact ⟨fun e => ‹¬ _› (List.isEmpty_iff.mpr e), readLine_append inp⟩

/-- nothing can be read exactly when the stream is exhausted -/
theorem readFromGui_none_iff (inp : List Char) : readFromGui inp = none ↔ inp = [] := by
  constructor
  · intro hn
    refine Classical.byContradiction fun hne => readLine_nonempty inp hne ?_
    unfold readFromGui at hn
    simp only at hn
    split at hn
    · exact List.isEmpty_iff.mp ‹_›
    · cases hn
  · rintro rfl; rfl

/-- every read consumes at least one byte -/
theorem readFromGui_progress (inp line rest : List Char) (h : readFromGui inp = some (line, rest)) :
    rest.length < inp.length := by
  obtain ⟨hne, rfl⟩ := readFromGui_some h
  have : 0 < line.length := List.length_pos_iff.mpr hne
  show rest.length < (line ++ rest).length
  rw [List.length_append]; omega


/-- the lines `read_from_gui` delivers from a byte stream, in order (the last one may be unterminated) -/
def linesOf : Nat → List Char → List (List Char)
  | 0, _ => []
  | fuel + 1, inp =>
    match readFromGui inp with
    | none => []
    | some (line, rest) => line :: linesOf fuel rest

/-- run a list of lines through `step`, concatenating the outputs; stops at the first exit / panic / hang -/
def runEvents : Sess → List (List Char) → List String × Option StreamEnd
  | _, [] => ([], none)
  | σ, raw :: rest =>
    match step h search σ (some raw) with
    | .cont σ' out => let r := runEvents σ' rest; (out ++ r.1, r.2)
    | .exit c => ([], some (.exit c))
    | .panic => ([], some .panic)
    | .hang => ([], some .hang)

/-- **the process on a byte stream = the dispatcher on the lines of that stream, then end of input**:
    outputs are the same, and the process ends with whatever stopped the dispatcher, or with `exit 0`
    when every line has been served -/
theorem runStream_eq_runEvents (σ : Sess) (inp : List Char) :
    ∀ fuel, inp.length < fuel →
      runStream h search fuel σ inp =
        ((runEvents h search σ (linesOf fuel inp)).1,
         ((runEvents h search σ (linesOf fuel inp)).2).getD (.exit 0)) := by
  intro fuel
  induction fuel generalizing σ inp with
  | zero => intro hlt; omega
  | succ n ih =>
    intro hlt
    unfold runStream linesOf
    cases hr : readFromGui inp with
    | none => rfl
    | some lr =>
      obtain ⟨line, rest⟩ := lr
      have hp := readFromGui_progress inp line rest hr
      simp only
      unfold runEvents
      cases step h search σ (some line) with
      | cont σ' out => simp only; rw [ih σ' rest (by omega)]
      | exit c => rfl
      | panic => rfl
      | hang => rfl

theorem runEvents_ne_outOfFuel (σ : Sess) (lines : List (List Char)) :
    (runEvents h search σ lines).2 ≠ some .outOfFuel := by
  induction lines generalizing σ with
  | nil => nofun
  | cons l ls ih =>
    unfold runEvents
    cases step h search σ (some l) with
    | cont σ' out => exact ih σ'
    | exit c => nofun
    | panic => nofun
    | hang => nofun

theorem runEvents_harmless (lines : List (List Char))
    (hharmless : ∀ σ', ∀ line ∈ lines, ∃ σ'' out, step h search σ' (some line) = .cont σ'' out)
    (σ : Sess) : (runEvents h search σ lines).2 = none := by
  induction lines generalizing σ with
  | nil => rfl
  | cons l ls ih =>
    obtain ⟨σ'', out, hs⟩ := hharmless σ l (List.mem_cons_self ..)
    unfold runEvents
    rw [hs]
    exact ih (fun σ' x hx => hharmless σ' x (List.mem_cons_of_mem _ hx)) σ''

/-- **closing standard input ends the process** — whatever was sent before and however the last line
    looks (complete, blank, whitespace only, unterminated): on EVERY byte stream the command loop comes
    to an end by itself (exit, or a panic / hang of one command); it never needs more steps than there
    are bytes, and an exhausted stream means `exit 0` -/
theorem stream_never_out_of_fuel (σ : Sess) (inp : List Char) :
    ∀ fuel, inp.length < fuel → (runStream h search fuel σ inp).2 ≠ .outOfFuel := by
  intro fuel hlt
  rw [runStream_eq_runEvents h search σ inp fuel hlt]
  have := runEvents_ne_outOfFuel h search σ (linesOf fuel inp)
  cases he : (runEvents h search σ (linesOf fuel inp)).2 with
  | none => nofun
  | some e => exact fun e' => this (he.trans (congrArg some e'))

theorem exhausted_stream_exits (σ : Sess) (fuel : Nat) : runStream h search (fuel + 1) σ [] = ([], .exit 0) := rfl

/-- if every line of the stream is served (none panics, hangs or is `quit`), the process ends with
    `exit 0` when the stream is used up -/
theorem stream_of_served_lines_exits_zero (σ : Sess) (inp : List Char) (fuel : Nat) (hlt : inp.length < fuel)
    (hserved : ∀ σ', ∀ line ∈ linesOf fuel inp, ∃ σ'' out, step h search σ' (some line) = .cont σ'' out) :
    (runStream h search fuel σ inp).2 = .exit 0 := by
  rw [runStream_eq_runEvents h search σ inp fuel hlt, runEvents_harmless h search _ hserved]
  rfl

/-- and if no command panics or hangs (and none is `quit`), the process ends with `exit 0` exactly
    when the stream is used up: unknown lines, blank lines and odd whitespace on the way do not stop it -/
theorem stream_of_harmless_lines_exits_zero (σ : Sess) (inp : List Char)
    (hharmless : ∀ σ' line, ∃ σ'' out, step h search σ' (some line) = .cont σ'' out) :
    ∀ fuel, inp.length < fuel → (runStream h search fuel σ inp).2 = .exit 0 := by
  intro fuel hlt
  exact stream_of_served_lines_exits_zero h search σ inp fuel hlt (fun σ' line _ => hharmless σ' line)

end Walleye
