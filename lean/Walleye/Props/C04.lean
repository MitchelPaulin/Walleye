/-
  C04 — `position … moves …` reconstructs the game position exactly.
  Proved: squares survive printing and parsing (`point_roundtrip` (Props/C15), `pointDisplay_length`), the
  replay is a fold of the text-move applier and of the table update over the move list, so the
  position after a prefix is the start of the replay of the rest (`playMoves_append` in
  Proofs/Table, `playMoves_prefix`).
  FULL on the model (Proofs/UciTextFacts, MakeMoveObs):
    * `text_replay_reproduces_successor`: every move the engine generates, printed as text and replayed
      with `make_move`, reproduces its own successor — board, side to move, castling rights, en passant
      target, king caches, and (with `KeyOK` of both) the key;
    * `replay_of_a_legal_move`: `make_move` on the UCI text of any LEGAL move returns exactly the position
      the rules give (`Spec.apply`), well-formed again, key exact;
    * `replay_of_a_legal_game`: by induction over the move list, `position … moves m1 … mn` with every
      move legal in turn holds exactly the fold of `Spec.apply` over them, for every length; the position part
      of `playMoves` is this replay (`playMoves_position`);
    * `position_startpos_holds_the_game`, `position_fen_holds_the_game`: the `position` command itself
      (`playOutPosition`), from the start position and from the canonical FEN text of any legal position,
      followed by the texts of a legal game: if it is served, the engine holds the rules' position after
      the game, well-formed, key exact.
  The string operations of `make_move` (byte slices, square parsing, the four corner substring tests,
  the promotion letter, the four literal castling strings) are established for all 64 x 64 x 5 texts in
  Proofs/UciTextFacts: the 64 square texts by kernel computation, the rest from the structure of a move
  text (`uciOf_read`, `parsePoint?_pointDisplay`, `contains_uciOf`, `uciOf_inj`, `uciOf_letter`: these are what
  `makeMove_text` uses; `textOK_all` there sums them up as one table and is used by no proof).
-/
import Walleye.Props.C15
import Walleye.Proofs.Table
import Walleye.Proofs.MakeMoveObs
import Walleye.Proofs.Start
namespace Walleye

theorem pointDisplay_length (p : Point) : (pointDisplay p).length = 2 := rfl

/-- every prefix of a replayed game: the position after the whole list is the position after the
    prefix, replayed on with the rest ("for every prefix of every game") -/
theorem playMoves_prefix (h : Hasher) (p q r : Pos) (t t1 t2 : DrawTable) (a b : List (List Char))
    (h1 : playMoves h p t a = some (q, t1)) (h2 : playMoves h q t1 b = some (r, t2)) :
    playMoves h p t (a ++ b) = some (r, t2) := by
  rw [playMoves_append, h1]; exact h2

/-- every generated move, printed and replayed, reproduces its successor -/
theorem text_replay_reproduces_successor (h : Hasher) (p : Pos) (wf : WFp p) :
    ∀ q ∈ generateMoves h p .all, ∃ txt q', moveText q = some txt ∧ makeMove h p txt = some q' ∧ Obs q' q := by
  intro q hq
  obtain ⟨a, b, q', hl, _, _, hmk, hobs⟩ := makeMove_reproduces_successor h p wf q hq
  exact ⟨_, q', moveText_eq q a b hl, hmk, hobs⟩

/-- with exact keys on both sides, the key is reproduced as well -/
theorem text_replay_reproduces_key (h : Hasher) (a b : Pos) (ho : Obs a b) (ha : KeyOK h a) (hb : KeyOK h b) :
    a.key = b.key := Obs.key h a b ho ha hb

/-- replaying the text of a legal move gives the position the rules give -/
theorem replay_of_a_legal_move (h : Hasher) (p : Pos) (wf : WFp p) (hinv : Inv h p) (m : Spec.Move)
    (hlegal : Spec.legal (abs p) m = true) :
    ∃ q', makeMove h p (uciText m) = some q' ∧ abs q' = Spec.apply (abs p) m ∧ WFp q' ∧ Inv h q' := by
  obtain ⟨q', h1, h2, h3, h4, _⟩ := makeMove_legal h p wf hinv m hlegal
  exact ⟨q', h1, h2, h3, h4⟩

/-- the position part of `play_out_position`'s move loop -/
def replayPos (h : Hasher) : Pos → List (List Char) → Option Pos
  | p, [] => some p
  | p, m :: ms => (makeMove h p m).bind fun q => replayPos h q ms

theorem playMoves_position (h : Hasher) (p : Pos) (t : DrawTable) (txts : List (List Char)) (r : Pos) (t' : DrawTable)
    (hp : playMoves h p t txts = some (r, t')) : replayPos h p txts = some r := by
  induction txts generalizing p t with
  | nil => cases hp; rfl
  | cons m ms ih =>
    rw [playMoves_cons] at hp
    obtain ⟨q, hm, hp⟩ := Option.bind_eq_some_iff.mp hp
    obtain ⟨t1, _, hp⟩ := Option.bind_eq_some_iff.mp hp
    rw [replayPos, hm]
    exact ih q t1 hp

/-- a sequence of moves, each legal in the position reached by the previous ones -/
inductive LegalSeq : Spec.Position → List Spec.Move → Prop where
  | nil (P : Spec.Position) : LegalSeq P []
  | cons {P : Spec.Position} {m : Spec.Move} {ms : List Spec.Move} :
      Spec.legal P m = true → LegalSeq (Spec.apply P m) ms → LegalSeq P (m :: ms)

theorem LegalSeq.of_cons {P : Spec.Position} {m : Spec.Move} {ms : List Spec.Move} (hl : LegalSeq P (m :: ms)) :
    Spec.legal P m = true ∧ LegalSeq (Spec.apply P m) ms := by
  cases hl with
  | cons hm hrest => exact ⟨hm, hrest⟩

/-- **C04**: replaying any legal game of any length gives exactly the position the rules give -/
theorem replay_of_a_legal_game (h : Hasher) (ms : List Spec.Move) (p : Pos) (wf : WFp p) (hinv : Inv h p)
    (hl : LegalSeq (abs p) ms) :
    ∃ r, replayPos h p (ms.map uciText) = some r ∧ abs r = ms.foldl Spec.apply (abs p) ∧ WFp r ∧ Inv h r := by
  induction ms generalizing p with
  | nil => exact ⟨p, rfl, rfl, wf, hinv⟩
  | cons m ms ih =>
    obtain ⟨hm, hrest⟩ := hl.of_cons
    obtain ⟨q', h1, h2, h3, h4⟩ := replay_of_a_legal_move h p wf hinv m hm
    rw [← h2] at hrest
    obtain ⟨r, r1, r2, r3, r4⟩ := ih q' h3 h4 hrest
    refine ⟨r, ?_, ?_, r3, r4⟩
    · simp only [List.map_cons, replayPos, h1, Option.bind_some]; exact r1
    · rw [List.foldl_cons, ← h2]; exact r2

theorem playMoves_of_a_legal_game (h : Hasher) (ms : List Spec.Move) (p0 : Pos) (wf : WFp p0) (hinv : Inv h p0)
    {P : Spec.Position} (habs : abs p0 = P) (hl : LegalSeq P ms) (t0 : DrawTable) (p : Pos) (t : DrawTable)
    (hp : playMoves h p0 t0 (ms.map uciText) = some (p, t)) :
    abs p = ms.foldl Spec.apply P ∧ WFp p ∧ Inv h p := by
  subst habs
  obtain ⟨r, hr, hrest⟩ := replay_of_a_legal_game h ms p0 wf hinv hl
  obtain rfl := Option.some.inj (hr.symm.trans (playMoves_position h p0 t0 _ p t hp))
  exact hrest

/-- `position startpos moves m1 … mn` with a legal game, for EVERY hasher: whenever the command is
    served (the only way out is a repetition count above 255), the engine holds exactly the position the
    rules give after the game, well-formed, with an exact key -/
theorem position_startpos_holds_the_game (h : Hasher) (ms : List Spec.Move) (hl : LegalSeq (abs startPosition) ms)
    (p : Pos) (t : DrawTable)
    (hp : playOutPosition h (["position".toList, "startpos".toList, "moves".toList] ++ ms.map uciText) = some (p, t)) :
    abs p = ms.foldl Spec.apply (abs startPosition) ∧ WFp p ∧ Inv h p := by
  obtain ⟨p0, hload, habs0, wf0, inv0⟩ := defaultFen_loads h
  rw [← abs_start] at habs0
  unfold playOutPosition at hp
  have h1 : (["position".toList, "startpos".toList, "moves".toList] ++ ms.map uciText)[1]? = some "startpos".toList := rfl
  rw [h1] at hp
  have hnf : ¬ ("startpos".toList = "fen".toList) := by decide
  simp only [hnf, if_false, hload] at hp
  have hidx : (["position".toList, "startpos".toList, "moves".toList] ++ ms.map uciText).findIdx? (· = "moves".toList) = some 2 := by
    have e1 : ("position".toList = "moves".toList) = False := by decide
    have e2 : ("startpos".toList = "moves".toList) = False := by decide
    simp only [List.cons_append, List.nil_append, List.findIdx?_cons, e1, e2, decide_false, decide_true,
      Bool.false_eq_true, if_false, if_true, Option.map_some]
  rw [hidx] at hp
  have hdrop : (["position".toList, "startpos".toList, "moves".toList] ++ ms.map uciText).drop (2 + 1) = ms.map uciText := rfl
  simp only [hdrop] at hp
  exact playMoves_of_a_legal_game h ms p0 wf0 inv0 habs0 hl _ p t hp

theorem canon_fields_not_moves (P : Spec.Position) (half full : List Char) (hh : CounterOK half) (hf : CounterOK full) :
    joinWith '/' ((rowsOf P).map fun r => r.map tokChar) ≠ "moves".toList ∧ sideText P.side ≠ "moves".toList ∧
    rightsOf P ≠ "moves".toList ∧ epFenText (P.ep.map Spec.toPoint) ≠ "moves".toList ∧
    half ≠ "moves".toList ∧ full ≠ "moves".toList := by
  have hdig : ∀ s : List Char, CounterOK s → s ≠ "moves".toList := by
    intro s hs e
    have := hs.2.1
    rw [e] at this
    revert this; decide
  refine ⟨?_, ?_, ?_, ?_, hdig half hh, hdig full hf⟩
  · intro e
    have hm := joinWith_sep_mem '/' ((rowsOf P).map fun r => r.map tokChar) (by
      rw [List.length_map, (rowsOf_ok P).1]; decide)
    rw [e] at hm
    revert hm; decide
  · cases P.side <;> decide
  · intro e
    have hlen : (rightsOf P).length ≤ 4 := by
      unfold rightsOf
      cases P.wks <;> cases P.wqs <;> cases P.bks <;> cases P.bqs <;> decide
    rw [e] at hlen
    revert hlen; decide
  · intro e
    have hlen : (epFenText (P.ep.map Spec.toPoint)).length ≤ 2 := by
      cases P.ep with
      | none => decide
      | some s => show (pointDisplay _).length ≤ 2; rw [pointDisplay_length]; decide
    rw [e] at hlen
    revert hlen; decide

/-- **`position fen … moves …`** for EVERY legal position P and every legal game from it, every
    hasher: the command whose tokens are `position fen` + the six fields of the canonical FEN text of
    P (any counters below 2^32) + `moves` + the UCI texts of the game, whenever it is served (only a
    repetition count above 255 stops it), leaves the engine holding exactly the rules' position after
    the game, well-formed, key exact -/
theorem position_fen_holds_the_game (h : Hasher) (P : Spec.Position) (hsz : P.cells.size = 64)
    (hep : ∀ e, P.ep = some e → InB e) (hlp : LP P) (half full : List Char) (hh : CounterOK half) (hf : CounterOK full)
    (ms : List Spec.Move) (hl : LegalSeq P ms) (p : Pos) (t : DrawTable)
    (hp : playOutPosition h (["position".toList, "fen".toList,
        joinWith '/' ((rowsOf P).map fun r => r.map tokChar), sideText P.side, rightsOf P,
        epFenText (P.ep.map Spec.toPoint), half, full, "moves".toList] ++ ms.map uciText) = some (p, t)) :
    abs p = ms.foldl Spec.apply P ∧ WFp p ∧ Inv h p := by
  obtain ⟨p0, hload, habs0, hwf0⟩ := every_position_loads_from_its_fen h P hsz hep half full hh hf
  obtain ⟨wf0, inv0⟩ := hwf0 hlp
  obtain ⟨n1, n2, n3, n4, n5, n6⟩ := canon_fields_not_moves P half full hh hf
  unfold playOutPosition at hp
  simp only [List.cons_append, List.nil_append, List.getElem?_cons_succ, List.getElem?_cons_zero, if_true] at hp
  -- the six fields joined by blanks are the canonical text
  have hjoin : (List.drop 2 (List.take 7 ("position".toList :: "fen".toList ::
        joinWith '/' ((rowsOf P).map fun r => r.map tokChar) :: sideText P.side :: rightsOf P ::
        epFenText (P.ep.map Spec.toPoint) :: half :: full :: "moves".toList :: ms.map uciText))).foldl
        (fun acc c => acc ++ c ++ [' ']) [] ++ full = canonText P half full := by
    simp [canonText, fenText, List.append_assoc]
  rw [hjoin, hload] at hp
  simp only at hp
  have hidx : ("position".toList :: "fen".toList ::
        joinWith '/' ((rowsOf P).map fun r => r.map tokChar) :: sideText P.side :: rightsOf P ::
        epFenText (P.ep.map Spec.toPoint) :: half :: full :: "moves".toList :: ms.map uciText).findIdx?
        (· = "moves".toList) = some 8 := by
    have e1 : ("position".toList = "moves".toList) = False := by decide
    have e2 : ("fen".toList = "moves".toList) = False := by decide
    simp only [List.findIdx?_cons, e1, e2, n1, n2, n3, n4, n5, n6, decide_false, decide_true,
      Bool.false_eq_true, if_false, if_true, Option.map_some]
  rw [hidx] at hp
  simp only [List.drop_succ_cons, List.drop_zero] at hp
  exact playMoves_of_a_legal_game h ms p0 wf0 inv0 habs0 hl _ p t hp

end Walleye
