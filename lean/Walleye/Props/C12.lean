/-
  C12 — shallow search returns the exact minimax value of its own evaluation.

  SPEC: `Spec.negamax` (plain minimax with check extension, capture quiescence, mate and repetition
  scoring; Spec/Negamax.lean).
  Proved (every game, every ordering that permutes, every window, every repetition table):
    * `oracle_is_minimax` (= `fast_spec`): the plain fail-soft alpha-beta evaluator used as the
      executable oracle of the C12/C10/C11 checks satisfies the window relation `Bnd` with respect to
      `Spec.negamax`, hence equals it whenever the value lies inside the window (`oracle_exact`);
    * `ordering_never_changes_the_value`: minimax over any permutation of the moves is the same
      (principal-variation-first, killers, capture ordering are permutations);
    * `null_move_dead_in_iterations_1_to_3`: the null-move test needs remaining depth ≥ 3, which a
      root child of iterations 1–3 never has.
    * `engine_search_is_minimax` (= `ab_spec`): the ENGINE-SHAPED search of the model — fail-hard
      quiescence, mate-distance clamp, first move with the full window, the others with a zero
      window and a re-search, PV / killer / current-line bookkeeping threaded through the state, the
      repetition table added and removed around every node — satisfies `Bnd` w.r.t. `Spec.negamax`,
      for every game with a bounded evaluation whose minimax value ignores the ordering tag, every
      ordering oracle that permutes, every window α < β, every repetition table, remaining depth < 3
      (no null move), a clock that does not expire and a call that finishes normally; and returns
      exactly the minimax value when that value is inside the window (`engine_search_exact`).
  The model<->code tie is checked on every run: the REAL search is run to the end of iteration 3
  under the virtual clock, with and without repetition histories; every final score and selected
  move is compared with the proved oracle, and the model replays the same run from the engine's
  order log and must agree exactly (node counts, info lines, sent boards).
-/
import Walleye.Proofs.RootSpec
import Walleye.Proofs.ChessGameOK
namespace Walleye
open Spec

variable {P : Type} (g : Game P) (order : List P → List P)

theorem oracle_is_minimax (hord : ∀ l, (order l).Perm l) (fuel depth ply : Nat) (t : DrawTable) (p : P)
    (a b : Int) (hab : a < b) :
    Bnd (negamax g fuel depth ply t p) a b (fast g order fuel depth ply t p a b) :=
  fast_spec g order hord fuel depth ply t p a b hab

/-- what the driver relies on when it calls `Spec.fast` with the full window: the value is strictly
    inside (it always is: |value| ≤ MATE < POS_INF) -/
theorem oracle_exact (hord : ∀ l, (order l).Perm l) (fuel depth ply : Nat) (t : DrawTable) (p : P) (a b : Int)
    (h1 : a < negamax g fuel depth ply t p) (h2 : negamax g fuel depth ply t p < b) :
    fast g order fuel depth ply t p a b = negamax g fuel depth ply t p :=
  (fast_spec g order hord fuel depth ply t p a b (by omega)).exact h1 h2

theorem quiescence_oracle_is_minimax (hord : ∀ l, (order l).Perm l) (fuel : Nat) (p : P) (a b : Int) (hab : a < b) :
    Bnd (qval g fuel p) a b (qfast g order fuel p a b) := qfast_spec g order hord fuel p a b hab

theorem ordering_never_changes_the_value (f : P → Int) (l l' : List P) (h : l.Perm l') (acc : Int) :
    maxNeg f l acc = maxNeg f l' acc := maxNeg_perm f l l' h acc

theorem null_move_dead_in_iterations_1_to_3 (allowNull : Bool) (depth : Nat) (inCheck : Bool) (hd : depth < 3) :
    ¬ (allowNull = true ∧ depth ≥ Gen.nullMinDepth ∧ ¬ inCheck = true) := null_dead_below_3 allowNull depth inCheck hd

theorem engine_search_is_minimax {O : Type} (ord : Oracle P O) (E : Nat) (hg : GameOK g E) (hord : OrdPerm ord)
    (fuel : Nat) (p : P) (depth ply : Nat) (a b : Int) (n : Bool) (t : DrawTable)
    (hd : depth < 3) (hab : a < b) (hE : (E : Int) + ply + fuel < Gen.mateScore) :
    Triple (St t) (alphaBeta g ord fuel p depth ply a b n)
      (fun v s' => Bnd (negamax g fuel depth ply t p) a b v ∧ St t s') :=
  ab_spec g ord E hg hord fuel p depth ply a b n t hd hab hE

theorem engine_search_exact {O : Type} (ord : Oracle P O) (E : Nat) (hg : GameOK g E) (hord : OrdPerm ord)
    (fuel : Nat) (p : P) (depth ply : Nat) (a b : Int) (n : Bool) (t : DrawTable) (s s' : SS P O) (v : Int)
    (hd : depth < 3) (hE : (E : Int) + ply + fuel < Gen.mateScore) (hst : St t s)
    (h1 : a < negamax g fuel depth ply t p) (h2 : negamax g fuel depth ply t p < b)
    (he : alphaBeta g ord fuel p depth ply a b n s = .ok v s') : v = negamax g fuel depth ply t p :=
  ab_exact g ord E hg hord fuel p depth ply a b n t s s' v hd hE hst h1 h2 he

/-- the chess model meets the game hypotheses (bounded evaluation by C14; the minimax value ignores
    the ordering tag), so the two theorems above hold for the model of the real engine, every hasher -/
theorem chess_engine_search_is_minimax {O : Type} (h : Hasher) (ord : Oracle Pos O) (hord : OrdPerm ord)
    (fuel : Nat) (p : Pos) (depth ply : Nat) (a b : Int) (n : Bool) (t : DrawTable)
    (hd : depth < 3) (hab : a < b) (hE : (70400 : Int) + ply + fuel < Gen.mateScore) :
    Triple (St t) (alphaBeta (chessGame h) ord fuel p depth ply a b n)
      (fun v s' => Bnd (negamax (chessGame h) fuel depth ply t p) a b v ∧ St t s') :=
  ab_spec (chessGame h) ord 70400 (chess_gameOK h) hord fuel p depth ply a b n t hd hab hE

/-- `root_exact`: one iteration (1, 2 or 3) of the root loop with a clock that does not expire ends
    with alpha = the maximum over all root moves of their exact minimax values, and — when alpha was
    raised — remembers a move attaining it: "the score reported equals the exact minimax value and
    the move selected attains it" -/
theorem root_exact {O : Type} (ord : Oracle P O) (E : Nat) (hg : GameOK g E) (hord : OrdPerm ord)
    (fuel curDepth : Nat) (first : P) (t : DrawTable) (hcd : curDepth - 1 < 3)
    (hE : (E : Int) + 1 + fuel < Gen.mateScore) (l : List P) (best : Option P) :
    Triple (St t) (rootLoop g ord fuel curDepth first l (-Gen.posInf) best)
      (fun r s' => St t s' ∧ ∃ A B, r = some (A, B) ∧
        A = maxNeg (negamax g fuel (curDepth - 1) 1 t) l (-Gen.posInf) ∧
        (-Gen.posInf < A → ∃ m ∈ l, B = some m ∧ - negamax g fuel (curDepth - 1) 1 t m = A) ∧
        (A = -Gen.posInf → B = best)) :=
  rootLoop_triple g ord E hg hord fuel curDepth first t hcd hE l (-Gen.posInf) best (Int.le_refl _) (by decide)

/-- `maxNeg` on numbers: of the children's values 3 and 1 the second is the better for the side to move
    (-1 > -3), and the accumulator -5 is below both -/
example : maxNeg (fun (x : Nat) => (x : Int)) [3, 1] (-5) = -1 := by decide

end Walleye
