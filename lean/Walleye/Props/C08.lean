/-
  C08 — `go` is always answered and the engine stays responsive (logic; latency is measured).
  On the dispatcher `step`: a position without moves is answered at once, and an `isready` after any answered
  command is answered.  On the polling loop `ioLoop` over an arbitrary schedule of polls and arrivals: it
  returns only boards that arrived, never exits without one, and returns a board if one is held at any deadline
  poll, so `go` does not hang (`go_does_not_hang`).
-/
import Walleye.Props.C17
namespace Walleye
open Str

variable (h : Hasher) (search : Pos → DrawTable → Nat → Option Pos)

/-- in a position without legal moves (mate or stalemate) `go` is answered at once with the null
    move, whatever the clocks are, and the state is kept (the defect fixed in 3a50ceb) -/
theorem go_on_terminal_position_answers_null_move (σ : Sess) (raw : List Char) (gt : GameTime)
    (hc : String.ofList ((splitOn ' ' (cleanInput raw)).headD []) = "go")
    (hg : parseGoCommand (splitOn ' ' (cleanInput raw)) = some gt)
    (hterm : generateMoves h σ.board .all = []) :
    step h search σ (some raw) = .cont σ ["bestmove 0000"] := by
  rw [step_go h search σ raw hc, hg, hterm]; rfl

/-- after any answered command the machine accepts the next one: `isready` → `readyok` -/
theorem session_continues (σ : Sess) (out : List String) (raw raw2 : List Char) (σ' : Sess)
    (_h1 : step h search σ (some raw) = .cont σ' out)
    (hc : String.ofList ((splitOn ' ' (cleanInput raw2)).headD []) = "isready") :
    step h search σ' (some raw2) = .cont σ' ["readyok"] := isready_answered h search σ' raw2 hc

/-- if the loop exits, the board it returns is one that arrived (or the one it started with) -/
theorem ioLoop_result_mem (sched : List (Bool × Option Pos)) (best : Option Pos) {r : Pos}
    (hr : ioLoop sched best = some r) : some r = best ∨ some r ∈ sched.map (·.2) := by
  induction sched generalizing best with
  | nil => cases hr
  | cons x xs ih =>
    obtain ⟨oot, arr⟩ := x
    unfold ioLoop at hr
    split at hr
    · exact .inl hr.symm
    · rw [List.map_cons, List.mem_cons]
      rcases ih _ hr with e | e
      · cases arr with
        | some b => exact .inr (.inl e)
        | none => exact .inl e
      · exact .inr (.inr e)

/-- the loop exits at the first poll at which the deadline has passed and a board is held -/
theorem ioLoop_exits (pre rest : List (Bool × Option Pos)) (best arr : Option Pos)
    (hpre : ∀ x ∈ pre, x.1 = false) (hsome : (pre.foldl (fun acc x => takeMsg x.2 acc) best).isSome) :
    ioLoop (pre ++ (true, arr) :: rest) best = pre.foldl (fun acc x => takeMsg x.2 acc) best := by
  induction pre generalizing best with
  | nil => simp only [List.nil_append, ioLoop, List.foldl_nil] at hsome ⊢; simp [hsome]
  | cons x xs ih =>
    obtain ⟨hx, hxs⟩ := List.forall_mem_cons.mp hpre
    obtain ⟨oot, a⟩ := x
    cases hx
    simp only [List.cons_append, ioLoop, Bool.false_eq_true, false_and, if_false]
    exact ih _ hxs hsome

/-- a board held at some deadline poll is enough, whatever the polls before: if the loop leaves earlier, it
    leaves with a board -/
theorem ioLoop_isSome (pre rest : List (Bool × Option Pos)) (best arr : Option Pos)
    (hsome : (pre.foldl (fun acc x => takeMsg x.2 acc) best).isSome) :
    (ioLoop (pre ++ (true, arr) :: rest) best).isSome := by
  induction pre generalizing best with
  | nil => simp only [List.nil_append, ioLoop, List.foldl_nil] at hsome ⊢; simp [hsome]
  | cons x xs ih =>
    obtain ⟨oot, a⟩ := x
    rw [List.cons_append, ioLoop]
    split
    next hx => exact hx.2
    next => exact ih _ hsome

/-- without any arrival the loop never exits: this is why a terminal position has to be answered
    before the loop is entered -/
theorem ioLoop_no_message_never_exits (sched : List (Bool × Option Pos))
    (hno : ∀ x ∈ sched, x.2 = none) : ioLoop sched none = none := by
  cases hr : ioLoop sched none with
  | none => rfl
  | some r =>
    rcases ioLoop_result_mem sched none hr with e | e
    · cases e
    · obtain ⟨x, hx, e⟩ := List.mem_map.mp e
      rw [hno x hx] at e; cases e

theorem step_go_ne_hang (σ : Sess) (raw : List Char) (gt : GameTime)
    (hc : String.ofList ((splitOn ' ' (cleanInput raw)).headD []) = "go")
    (hg : parseGoCommand (splitOn ' ' (cleanInput raw)) = some gt)
    (hsome : (search σ.board σ.table (calculateTimeSlice gt σ.board.toMove)).isSome) :
    step h search σ (some raw) ≠ .hang := by
  obtain ⟨b, hb⟩ := Option.isSome_iff_exists.mp hsome
  rw [step_go h search σ raw hc, hg]
  simp only [hb]
  split
  · nofun
  · split <;> nofun

/-- **`go` never hangs** once a board has arrived before the deadline poll: whatever else the
    schedule does, the dispatcher gets a board back from the polling loop (the search thread hands
    one over before its first evaluation starts — `search_always_hands_over_a_move`, Props/C03) -/
theorem go_does_not_hang (σ : Sess) (raw : List Char) (gt : GameTime)
    (hc : String.ofList ((splitOn ' ' (cleanInput raw)).headD []) = "go")
    (hg : parseGoCommand (splitOn ' ' (cleanInput raw)) = some gt)
    (pre rest : List (Bool × Option Pos)) (arr : Option Pos)
    (hpre : ∀ x ∈ pre, x.1 = false)
    (harrived : (pre.foldl (fun acc x => takeMsg x.2 acc) none).isSome)
    (hsearch : search σ.board σ.table (calculateTimeSlice gt σ.board.toMove) = ioLoop (pre ++ (true, arr) :: rest) none) :
    step h search σ (some raw) ≠ .hang :=
  step_go_ne_hang h search σ raw gt hc hg (hsearch ▸ ioLoop_isSome pre rest none arr harrived)

end Walleye
