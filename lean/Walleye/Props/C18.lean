/-
  C18 — search info lines are well-formed and within score bounds.
  Proved: the shape of every emitted line (by construction of `infoText`, which is compared
  verbatim with the engine's lines on every run); only the root emits
  lines (the inner search is silent); the first PV entry of an accepted line is the accepted root
  move's descriptor; and — `scores_in_range`, `chess_scores_in_range` — the value-range invariant
  of the WHOLE search (every depth: null-move pruning, re-searches, check extension, repetition
  draws, any clock expiry, any ordering oracle): every score on an info line lies in
  [-(MATE-2), MATE-1], at every point of the run and whatever its outcome; so the abort sentinel
  is never printed, `mate N` is never `mate 0` (`printed_mate_distance`), and `cp` values are strictly inside
  the bands (`cp_in_bounds`).
  `info_stream_is_ordered`, `first_pv_move_is_a_legal_move` (Proofs/Stream): over one search, in the
  order printed, D ≥ 1 and non-decreasing, scores strictly increasing within one depth, first PV move
  = from/to of a legal move of the searched position — every clock expiry, ordering, outcome.
  Supporting: `value_in_range_or_aborted` (every alpha-beta call returns a value in [-MATE, MATE]
  or, only after the clock said "out of time", the sentinel) and `value_ply_exact`.
-/
import Walleye.Proofs.Reports
import Walleye.Proofs.RootRange
import Walleye.Proofs.ChessGameOK
import Walleye.Model.SearchChess
import Walleye.Proofs.Stream
import Walleye.Proofs.MakeMoveObs
namespace Walleye

/-- the grammar, literally: `info pv( <move>)* depth D nodes N score (cp X | mate Y)` -/
theorem info_grammar (i : Info) :
    ∃ sc : String, infoText i =
        s!"info pv{String.join (i.pv.map fun m => " " ++ mvText m)} depth {i.depth} nodes {i.nodes} score " ++ sc ∧
      (sc = s!"cp {i.eval}" ∨ sc = s!"mate {Int.tdiv (Gen.mateScore - i.eval + 1) 2}" ∨
       sc = s!"mate {Int.tdiv (Gen.mateScore + i.eval) (-2)}") := by
  unfold infoText
  simp only
  split
  · exact ⟨_, rfl, Or.inr (Or.inl rfl)⟩
  · split
    · exact ⟨_, rfl, Or.inr (Or.inr rfl)⟩
    · exact ⟨_, rfl, Or.inl rfl⟩

/-- a `cp` line is printed only strictly inside the mate bands, in particular never the sentinel -/
theorem cp_in_bounds (i : Info)
    (h : ¬ (i.eval ≥ Gen.mateScore - Gen.mateWindow)) (h' : ¬ (i.eval ≤ -Gen.mateScore + Gen.mateWindow)) :
    -Gen.mateScore < i.eval ∧ i.eval < Gen.mateScore ∧ i.eval ≠ Gen.posInf ∧ i.eval ≠ -Gen.posInf := by
  simp only [Gen.mateScore, Gen.mateWindow, Gen.posInf] at *
  omega

/-- info lines come from the root only -/
theorem only_root_reports {P O : Type} (g : Game P) (ord : Oracle P O) (fuel : Nat) (p : P) (d ply : Nat)
    (a b : Int) (n : Bool) (s : SS P O) :
    (outState (alphaBeta g ord fuel p d ply a b n s)).reports = s.reports := alphaBeta_silent g ord fuel p d ply a b n s

/-- every alpha-beta call entered with a window overlapping [-MATE, MATE] returns a value in that
    range or — only in a state whose clock has expired — the sentinel ±POS_INF (every depth) -/
theorem value_in_range_or_aborted {P O : Type} (g : Game P) (ord : Oracle P O) (E : Nat)
    (hE : ∀ p, -(E : Int) ≤ g.eval p ∧ g.eval p ≤ E) (hEm : (E : Int) ≤ Gen.mateScore) (fuel : Nat) :
    ChildR (alphaBeta g ord fuel) := alphaBeta_range g ord E hE hEm fuel

/-- as long as the clock has not expired, a node at `ply` with window (a, b) returns a value in
    [min b (-(MATE - ply)), max a (MATE - ply - 1)] (every depth) -/
theorem value_ply_exact {P O : Type} (g : Game P) (ord : Oracle P O) (E : Nat)
    (hE : ∀ p, -(E : Int) ≤ g.eval p ∧ g.eval p ≤ E)
    (hEp : (E : Int) + arrSize + Gen.nullPlyJump + 1 ≤ Gen.mateScore) (fuel : Nat) :
    ChildF (alphaBeta g ord fuel) := alphaBeta_fine g ord E hE hEp fuel

/-- every reported score is in [-(MATE-2), MATE-1]: any game with a bounded evaluation -/
theorem scores_in_range {P O : Type} (g : Game P) (ord : Oracle P O) (E : Nat)
    (hE : ∀ p, -(E : Int) ≤ g.eval p ∧ g.eval p ≤ E)
    (hEp : (E : Int) + arrSize + Gen.nullPlyJump + 1 ≤ Gen.mateScore) (fuel : Nat) (root : P) (s : SS P O)
    (hs : s.reports = #[]) :
    ∀ i, Report.info i ∈ (outState (getBestMove g ord fuel root s)).reports.toList →
      -(Gen.mateScore - 2) ≤ i.eval ∧ i.eval ≤ Gen.mateScore - 1 :=
  getBestMove_scores_in_range g ord E hE hEp fuel root s (by intro i hi; rw [hs] at hi; cases hi)

/-- the chess instance (evaluation bound 70 400 of C14): every score the engine model reports -/
theorem chess_scores_in_range {O : Type} (h : Hasher) (ord : Oracle Pos O) (fuel : Nat) (root : Pos)
    (s : SS Pos O) (hs : s.reports = #[]) :
    ∀ i, Report.info i ∈ (outState (getBestMove (chessGame h) ord fuel root s)).reports.toList →
      -(Gen.mateScore - 2) ≤ i.eval ∧ i.eval ≤ Gen.mateScore - 1 :=
  scores_in_range (chessGame h) ord 70400 (chess_gameOK (h := h)).evalB (by decide) fuel root s hs

/-- hence no printed mate distance is 0 and every one is at most 8 moves, both signs -/
theorem printed_mate_distance (e : Int) (hr : -(Gen.mateScore - 2) ≤ e ∧ e ≤ Gen.mateScore - 1) :
    (e ≥ Gen.mateScore - Gen.mateWindow → 1 ≤ Int.tdiv (Gen.mateScore - e + 1) 2 ∧ Int.tdiv (Gen.mateScore - e + 1) 2 ≤ 8) ∧
    (e ≤ -Gen.mateScore + Gen.mateWindow → Int.tdiv (Gen.mateScore + e) (-2) ≤ -1) := by
  simp only [Gen.mateScore, Gen.mateWindow] at *
  refine ⟨fun h => ?_, fun h => ?_⟩
  · rw [Int.tdiv_eq_ediv_of_nonneg (by omega)]; omega
  · rw [Int.tdiv_neg, Int.tdiv_eq_ediv_of_nonneg (by omega)]; omega

/-- **D ≥ 1, non-decreasing over one search; within one depth strictly increasing scores**: the info
    lines of a whole run of `get_best_move`, in the order printed — every game, every clock expiry,
    every ordering oracle returning a sub-list, at every point of the run and whatever its outcome -/
theorem info_stream_is_ordered {P O : Type} (g : Game P) (ord : Oracle P O) (hord : OrdSub ord) (fuel : Nat)
    (root : P) (s : SS P O) (hs : s.reports = #[]) :
    FwdOK (infosOf (outState (getBestMove g ord fuel root s)).reports) :=
  (getBestMove_stream g ord hord fuel root s hs).1

/-- **the first PV move of every line is legal in the searched position**: its from/to squares are
    those of a move that is legal under the rules (the PV printer omits promotion letters) -/
theorem first_pv_move_is_a_legal_move {O : Type} (h : Hasher) (ord : Oracle Pos O) (hord : OrdSub ord) (fuel : Nat)
    (root : Pos) (wf : WFp root) (s : SS Pos O) (hs : s.reports = #[]) :
    ∀ i ∈ infosOf (outState (getBestMove (chessGame h) ord fuel root s)).reports,
      ∃ (a b : Point) (m : Spec.Move), i.pv.head? = some (a, b) ∧ Spec.legal (abs root) m = true ∧
        m.src = specOf a ∧ m.dst = specOf b := by
  intro i hi
  have hp := (getBestMove_stream (chessGame h) ord hord fuel root s hs).2 i hi
  obtain ⟨q, ⟨m, hm, hor⟩, hq⟩ := hp
  obtain ⟨a, b, _, hl, _, _, _, _⟩ := makeMove_reproduces_successor h root wf m hm
  obtain ⟨hlegal, _⟩ := generateMoves_sound h root wf m hm
  have hlq : (chessGame h).lastMove q = some (a, b) := by
    rcases hor with rfl | rfl
    · exact hl
    · exact hl
  have hmv : moveOf m = ⟨specOf a, specOf b, m.promo.map (·.kind)⟩ := by unfold moveOf; rw [hl]
  refine ⟨a, b, moveOf m, ?_, hlegal, by rw [hmv], by rw [hmv]⟩
  rcases hq with hq | hq
  · rw [hlq] at hq; cases hq
  · rw [hq, hlq]

end Walleye
