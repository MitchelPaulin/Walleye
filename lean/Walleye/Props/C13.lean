/-
  C13 — capture-only generation used by quiescence yields only real captures, along any chain.

  Proved (for every position satisfying the chain invariant `Inv`: sentinel ring, well-formed en
  passant target, exact key; and every hasher):
    * `caps_only_captures`: the descriptor of every capture-only successor names a move onto a
      square occupied by an enemy piece, or onto the current en passant target;
    * `caps_clears_ep`: every capture-only successor has NO en passant target, so an en passant
      capture can never be generated for a double step made more than one ply earlier;
    * `caps_subset_all`: every capture-only successor is literally one of the full generator's
      successors (same board, rights, caches, key, descriptor, promotion fan-out included);
    * `caps_no_castling`; `caps_chain`: the invariant survives any chain of capture-only generations.
    * FULL (model level): `caps_are_exactly_the_legal_captures` — for every well-formed position a move
      is carried by some capture-only successor iff it is a legal capturing move of the specification
      (destination occupied, or en passant); `caps_successor_is_spec_apply` — each successor is the
      specification's position after its move; `caps_exact_along_chains` — well-formedness survives
      every chain of capture-only generations, so both hold at every position the quiescence search
      can reach;
      `caps_no_move_twice` — no capturing move appears twice in the list.
-/
import Walleye.Props.C02
import Walleye.Proofs.NoDup
import Walleye.Proofs.Complete
namespace Walleye

theorem caps_only_captures (h : Hasher) (p : Pos) :
    ∀ s ∈ generateMoves h p .caps,
      ∃ sq mov, s.lastMove = some (sq, mov) ∧ (EnemyAt p.board p.toMove mov ∨ p.ep = some mov) :=
  fun s hs => (generateMoves_caps_shape h p s hs).2

theorem caps_clears_ep (h : Hasher) (p : Pos) : ∀ s ∈ generateMoves h p .caps, s.ep = none :=
  fun s hs => (generateMoves_caps_shape h p s hs).1

theorem caps_subset_all (h : Hasher) (p : Pos) :
    ∀ s ∈ generateMoves h p .caps, s ∈ generateMoves h p .all := generateMoves_caps_subset h p

theorem caps_no_castling (h : Hasher) (p : Pos) :
    generateMoves h p .caps =
      boardCoords.flatMap fun pt =>
        match p.board.get pt.row pt.col with
        | .full piece => if piece.color = p.toMove then generateMovesForPiece h piece p pt .caps else []
        | _ => [] := by
  unfold generateMoves
  rw [if_neg (by decide), List.append_nil]
  congr 1

/-- chains of capture-only generations, of any length, as followed by quiescence -/
inductive CapChain (h : Hasher) : Pos → Pos → Prop where
  | refl (p : Pos) : CapChain h p p
  | step {p q s : Pos} : CapChain h p q → s ∈ generateMoves h q .caps → CapChain h p s

theorem CapChain.gen {h : Hasher} {p q : Pos} (hc : CapChain h p q) : GenChain h p q := by
  induction hc with
  | refl => exact .refl _
  | step _ hs ih => exact .step .caps ih hs

theorem caps_chain (h : Hasher) (p q : Pos) (hinv : Inv h p) (hc : CapChain h p q) : Inv h q :=
  gen_chain_inv h p q hinv hc.gen

/-- after the first capture of a chain no position of the chain carries an en passant target:
    "an en-passant capture whose double step happened more than one ply earlier" cannot occur -/
theorem caps_chain_no_stale_ep_partial (h : Hasher) (p q s : Pos) (_hc : CapChain h p q)
    (hs : s ∈ generateMoves h q .caps) : s.ep = none ∧ ∀ t ∈ generateMoves h s .caps,
      ∃ sq mov, t.lastMove = some (sq, mov) ∧ EnemyAt s.board s.toMove mov := by
  have h1 := caps_clears_ep h q s hs
  refine ⟨h1, fun t ht => ?_⟩
  obtain ⟨sq, mov, hl, hor⟩ := caps_only_captures h s t ht
  refine ⟨sq, mov, hl, ?_⟩
  cases hor with
  | inl e => exact e
  | inr e => rw [h1] at e; cases e

/-- **C13**: capture-only generation returns exactly the legal capturing moves -/
theorem caps_are_exactly_the_legal_captures (h : Hasher) (p : Pos) (wf : WFp p) (m : Spec.Move) :
    (∃ q ∈ generateMoves h p .caps, moveOf q = m) ↔
      (Spec.legal (abs p) m = true ∧ isCaptureSpec (abs p) m = true) := caps_exact h p wf m

/-- each capture-only successor is the position its move really produces -/
theorem caps_successor_is_spec_apply (h : Hasher) (p : Pos) (wf : WFp p) :
    ∀ q ∈ generateMoves h p .caps, abs q = Spec.apply (abs p) (moveOf q) :=
  fun q hq => (generateMoves_sound_mode h p wf .caps q hq).2.1

theorem cap_chain_wf (h : Hasher) (p q : Pos) (wf : WFp p) (hinv : Inv h p) (hc : CapChain h p q) : WFp q ∧ Inv h q :=
  gen_chain_wf h p q wf hinv hc.gen

/-- along any chain of capture-only generations, as followed by the quiescence search -/
theorem caps_exact_along_chains (h : Hasher) (p q : Pos) (wf : WFp p) (hinv : Inv h p) (hc : CapChain h p q)
    (m : Spec.Move) :
    ((∃ s ∈ generateMoves h q .caps, moveOf s = m) ↔
      (Spec.legal (abs q) m = true ∧ isCaptureSpec (abs q) m = true)) ∧
    ∀ s ∈ generateMoves h q .caps, abs s = Spec.apply (abs q) (moveOf s) :=
  ⟨caps_exact h q (cap_chain_wf h p q wf hinv hc).1 m,
   caps_successor_is_spec_apply h q (cap_chain_wf h p q wf hinv hc).1⟩

/-- no capturing move appears twice, at every position of every capture chain -/
theorem caps_no_move_twice (h : Hasher) (p q : Pos) (wf : WFp p) (hinv : Inv h p) (hc : CapChain h p q) :
    ((generateMoves h q .caps).map moveOf).Nodup :=
  generateMoves_nodup h q (cap_chain_wf h p q wf hinv hc).1 .caps

end Walleye
