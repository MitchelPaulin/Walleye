/-
  C09 — thinking time never exceeds what the mover's clock allows.
  The slice is computed over an exact integer model of IEEE-754 binary64 (Model/Time.lean).
  Proved: `slice_mover_only`; `slice_le_u128`; which branch is taken (no clock, increment only, planned), as tests
  on the integers (`sliceCore_eq`, Proofs/SliceBound); and, over ℚ
  with the rounding theory of Proofs/Float.lean (`round53` has relative error ≤ 2^-53, keeps the sign,
  is exact on integers below 2^53; `f64::round` is at most ½ above its argument), for ALL integer clocks
  and increments (negative, zero, tiny, huge — no size bound) and every moves-to-go from 1 to 2^32-1 or
  absent (then 30):
    * `slice_never_exceeds_clock`: slice ≤ max(clock, 0) of the side to move;
    * `slice_at_most_80_percent_share`: clock > 100 ⇒ slice ≤ 4/5 · (clock − 100) / mtg · (1 + 2^-50) + ½
      (binary64 rounding and rounding to whole milliseconds);
    * `slice_zero_without_clock_and_increment`: clock ≤ 100 and increment ≤ 0 ⇒ slice = 0.
  The first two carry the u32 bound on the moves to go as a premise they do not need:
  `calculateTimeSlice_le_clock` and `calculateTimeSlice_share` are the same for every `GameTime`.
  The constants 100 ms, 30 moves, 0.8 come from the source through the translator (Generated/Consts);
  the statements spell the numbers out, so a changed constant breaks the proofs.
  Only Proofs/Float.lean imports Mathlib modules (ℚ as an ordered field, positivity/norm_num/push_cast/ring),
  and through it Proofs/SliceBound.lean and this file; the model is core-only.
-/
import Walleye.Model.Time
import Walleye.Proofs.SliceBound
namespace Walleye

/-- the slice is a function of the mover's own clock, increment and movestogo only -/
theorem slice_mover_only (gt gt' : GameTime) (c : Color) (hm : gt.movestogo = gt'.movestogo)
    (hw : c = .white → gt.wtime = gt'.wtime ∧ gt.winc = gt'.winc)
    (hb : c = .black → gt.btime = gt'.btime ∧ gt.binc = gt'.binc) :
    calculateTimeSlice gt c = calculateTimeSlice gt' c := by
  have hmtg : gt.mtg = gt'.mtg := by unfold GameTime.mtg; rw [hm]
  rw [calculateTimeSlice_eq, calculateTimeSlice_eq, hmtg]
  cases c
  · exact congrArg₂ (sliceCore · · _) (hw rfl).1 (hw rfl).2
  · exact congrArg₂ (sliceCore · · _) (hb rfl).1 (hb rfl).2

/-- whatever the inputs, the planned slice fits the u128 the engine stores it in -/
theorem slice_le_u128 (gt : GameTime) (c : Color) : calculateTimeSlice gt c < 2 ^ 128 := by
  rw [calculateTimeSlice_eq, sliceCore_eq]
  split
  · split
    · exact F64.toU128_lt _
    · decide
  · split
    · decide
    · exact F64.toU128_lt _

/-- concrete values of the model (kernel computation): the examples of the property text -/
example : calculateTimeSlice { wtime := 1000, btime := 7 } .white = 24 := by decide +kernel
example : calculateTimeSlice { wtime := 50, winc := 1000 } .white = 50 := by decide +kernel
example : calculateTimeSlice { wtime := 100, winc := 0 } .white = 0 := by decide +kernel
example : calculateTimeSlice { btime := 60100, movestogo := some 10 } .black = 4800 := by decide +kernel

/-- moves to go as the code reads them: the number told if it is positive, else 30
    (`movestogo 0` counts as not told — fix e30d5a0) -/
def movesToGo (gt : GameTime) : Nat := gt.mtg

theorem movesToGo_spec (gt : GameTime) :
    movesToGo gt = 30 ∨ (1 ≤ movesToGo gt ∧ gt.movestogo = some (movesToGo gt)) := by
  unfold movesToGo GameTime.mtg
  cases gt.movestogo with
  | none => exact .inl rfl
  | some m =>
    dsimp only
    split
    · exact .inl rfl
    · exact .inr ⟨by omega, rfl⟩

theorem movesToGo_pos (gt : GameTime) : 1 ≤ movesToGo gt := by
  rcases movesToGo_spec gt with h | h
  · rw [h]; decide
  · exact h.1

theorem calculateTimeSlice_le_clock (gt : GameTime) (c : Color) :
    ((calculateTimeSlice gt c : Nat) : Int) ≤ max (moverClock gt c) 0 := by
  rw [calculateTimeSlice_eq]
  exact sliceCore_le_clock _ _ _ (movesToGo_pos gt)

/-- **C09**: the planned time never exceeds the mover's remaining clock — every clock and increment,
    every `movestogo` a u32 can hold (0 included), or none -/
theorem slice_never_exceeds_clock (gt : GameTime) (c : Color) (hm32 : movesToGo gt < 2 ^ 32) :
    ((calculateTimeSlice gt c : Nat) : Int) ≤ max (moverClock gt c) 0 :=
  calculateTimeSlice_le_clock gt c

theorem calculateTimeSlice_share (gt : GameTime) (c : Color) (hc : 100 < moverClock gt c) :
    ((calculateTimeSlice gt c : Nat) : ℚ) ≤
      4 / 5 * ((moverClock gt c : ℚ) - 100) / (movesToGo gt : ℚ) * (1 + 1 / 2 ^ 50) + 1 / 2 := by
  rw [calculateTimeSlice_eq]
  exact slice_share _ _ _ (by omega) (movesToGo_pos gt)

/-- **C09**: with more than the 100 ms margin left the plan is at most 80 % of (clock − margin) divided
    by the moves to go (30 when not told), up to binary64 rounding and whole-millisecond rounding -/
theorem slice_at_most_80_percent_share (gt : GameTime) (c : Color) (hc : 100 < moverClock gt c)
    (hm32 : movesToGo gt < 2 ^ 32) :
    ((calculateTimeSlice gt c : Nat) : ℚ) ≤
      4 / 5 * ((moverClock gt c : ℚ) - 100) / (movesToGo gt : ℚ) * (1 + 1 / 2 ^ 50) + 1 / 2 :=
  calculateTimeSlice_share gt c hc

/-- every `movestogo` value the parser can produce (a u32) satisfies the size premise -/
theorem movesToGo_u32 (gt : GameTime) (h : ∀ m, gt.movestogo = some m → m < 2 ^ 32) : movesToGo gt < 2 ^ 32 := by
  rcases movesToGo_spec gt with h' | h'
  · rw [h']; decide
  · exact h _ h'.2

/-- **C09**: no usable clock and no increment ⇒ zero -/
theorem slice_zero_without_clock_and_increment (gt : GameTime) (c : Color) (hc : moverClock gt c ≤ 100)
    (hi : moverInc gt c ≤ 0) : calculateTimeSlice gt c = 0 := by
  rw [calculateTimeSlice_eq]
  exact slice_zero _ _ _ hc hi

/-- the premises are satisfiable, and huge values are covered: an i128-sized clock -/
example : movesToGo { wtime := 2 ^ 126 } < 2 ^ 32 ∧ (100 : Int) < moverClock { wtime := 2 ^ 126 } .white := by decide

/-- `movestogo 0` (the defect repaired in e30d5a0, which planned 2^128 − 1 ms) is planned like no
    `movestogo` at all -/
example : calculateTimeSlice { wtime := 1000, movestogo := some 0 } .white = 24 := by decide +kernel

end Walleye
