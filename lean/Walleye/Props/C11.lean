/-
  C11 — mate announcements are true and a mate in one is always played.
  There is no universal soundness theorem for the deeper iterations (speculative null-move
  pruning): there the property is decided by exploration against the Lean mate solver (`mateinfo` /
  `matecheck` in the driver) over mate/stalemate neighbourhoods.  Proved here, for iterations 1–3
  with a clock that does not expire (they rest on `rootLoop_best`, Proofs/RootSpec, and on the
  meaning of mate-band minimax values, Proofs/MateTheory): `mate_in_one_played`,
  `mate_announcements_are_true_upto3`, `does_not_play_into_mate_in_one`; for every depth: a
  stalemate is never given a mate score (`stalemate_is_never_a_mate_score`); and the arithmetic that
  turns a mate evaluation into the printed distance and back (`mate_distance_of_win`,
  `mate_distance_of_loss`), with a draw value printed as `cp 0` (`draw_is_reported_as_cp`).
-/
import Walleye.Proofs.RootSpec
import Walleye.Proofs.MateTheory
import Walleye.Model.SearchChess
namespace Walleye

theorem tdiv_two_mul {x n : Int} (h : x = 2 * n) : x.tdiv 2 = n := by
  rw [h, Int.mul_tdiv_cancel_left _ (by decide)]

theorem tdiv_neg_two_mul {x n : Int} (h : x = 2 * n) : x.tdiv (-2) = -n := by
  rw [Int.tdiv_neg, tdiv_two_mul h]

/-- side to move mates in n (n ≥ 1): the mated node is at ply 2n−1, the root sees MATE − (2n−1) and prints n -/
theorem mate_distance_of_win (n : Int) (h1 : 1 ≤ n) (h8 : n ≤ 8) :
    Gen.mateScore - (2 * n - 1) ≥ Gen.mateScore - Gen.mateWindow ∧
    Int.tdiv (Gen.mateScore - (Gen.mateScore - (2 * n - 1)) + 1) 2 = n := by
  simp only [Gen.mateScore, Gen.mateWindow]
  exact ⟨by omega, tdiv_two_mul (by omega)⟩

/-- side to move is mated in n moves: the mated node is at ply 2n, the root sees −(MATE − 2n) and prints −n -/
theorem mate_distance_of_loss (n : Int) (h1 : 1 ≤ n) (h7 : n ≤ 7) :
    -(Gen.mateScore - 2 * n) ≤ -Gen.mateScore + Gen.mateWindow ∧
    Int.tdiv (Gen.mateScore + -(Gen.mateScore - 2 * n)) (-2) = -n := by
  simp only [Gen.mateScore, Gen.mateWindow]
  exact ⟨by omega, tdiv_neg_two_mul (by omega)⟩

variable {P O : Type} (g : Game P) (ord : Oracle P O)

/-- if the side to move can give checkmate in one move, an iteration (1, 2 or 3) that runs to its
    end finishes with the score MATE − 1 (printed `mate 1`) and the move it remembers gives checkmate -/
theorem mate_in_one_played (E : Nat) (hg : GameOK g E) (hord : OrdPerm ord) (fuel curDepth : Nat) (first : P)
    (t : DrawTable) (hcd : curDepth - 1 < 3) (hE : (E : Int) + 1 + (fuel + 1) < Gen.mateScore) (l : List P)
    (best : Option P) (m : P) (hm : m ∈ l) (h3 : t.isThreefold (g.key m) = false)
    (hmate : g.gen m .all = [] ∧ g.inCheck m = true) :
    Triple (St t) (rootLoop g ord (fuel + 1) curDepth first l (-Gen.posInf) best)
      (fun r _ => ∃ B, r = some (Gen.mateScore - 1, some B) ∧ B ∈ l ∧ g.gen B .all = [] ∧ g.inCheck B = true) := by
  refine (rootLoop_best g ord E hg hord (fuel + 1) curDepth first t hcd hE l (List.ne_nil_of_mem hm)
    best).weaken (fun _ h => h) ?_
  rintro r _ ⟨A, b, hr, hb, hA, hmax⟩
  have h0 := hmax m hm
  rw [negamax_mated g fuel (curDepth - 1) 1 t m h3 hmate.1 hmate.2] at h0
  -- nothing is worth more than MATE − 1 at ply 1
  have hub := (negamax_range g E hg (fuel + 1) (curDepth - 1) 1 t b hE).1
  obtain rfl : A = Gen.mateScore - 1 := by omega
  refine ⟨b, hr, hb, ?_⟩
  -- a move worth MATE − 1 is a checkmate
  exact Classical.byContradiction fun hnm => by
    have := negamax_gt_unless_mated g E hg fuel (curDepth - 1) 1 t b hE hnm
    omega

/-- **`score mate N` is true** for an iteration (1, 2 or 3) that runs to its end, for every game with a
    bounded evaluation, every permuting ordering oracle, every repetition table: a final score above
    the evaluation bound is MATE − (2n − 1) for some n ≥ 1, is printed as `mate n`, and the side to
    move has a move after which the opponent is mated within n − 1 moves whatever it plays — a forced
    mate in at most n moves really exists; a final score below minus the bound is −(MATE − 2n), is
    printed as `mate −n`, and after EVERY move of the side to move the opponent can force mate in at
    most n moves — the side to move really is mated within n moves against best play.  (`Win`,
    `Lose`: Proofs/MateTheory.lean, in terms of the game's own move generation and check test, which
    C01/C06 tie to the rules.) -/
theorem mate_announcements_are_true_upto3 (E : Nat) (hg : GameOK g E) (hord : OrdPerm ord) (fuel curDepth : Nat)
    (first : P) (t : DrawTable) (hcd : curDepth - 1 < 3) (hE : (E : Int) + 1 + (fuel + 1) < Gen.mateScore)
    (l : List P) (hl : l ≠ []) (best : Option P) :
    Triple (St t) (rootLoop g ord (fuel + 1) curDepth first l (-Gen.posInf) best)
      (fun r _ => ∃ A B, r = some (A, B) ∧
        ((E : Int) < A → ∃ n : Nat, 1 ≤ n ∧ A = Gen.mateScore - (2 * n - 1) ∧
            Int.tdiv (Gen.mateScore - A + 1) 2 = n ∧ ∃ m ∈ l, Lose g (n - 1) m) ∧
        (A < -(E : Int) → ∃ n : Nat, 1 ≤ n ∧ A = -(Gen.mateScore - 2 * n) ∧
            Int.tdiv (Gen.mateScore + A) (-2) = -(n : Int) ∧ ∀ m ∈ l, Win g n m)) := by
  refine (rootLoop_best g ord E hg hord (fuel + 1) curDepth first t hcd hE l hl best).weaken (fun _ h => h) ?_
  rintro r _ ⟨A, b, hr, hb, hA, hmax⟩
  -- the root is one more ply of mate propagation, from ply 1 to ply 0
  obtain ⟨hw, hl⟩ := mate_step g E 0 _ l A b hb hA hmax fun x =>
    negamax_mate_char g E hg (fuel + 1) (curDepth - 1) 1 t x hE
  refine ⟨A, some b, hr, fun h => ?_, fun h => ?_⟩
  · obtain ⟨k, hk, hm⟩ := hw h
    exact ⟨k + 1, by omega, by omega, tdiv_two_mul (by omega), hm⟩
  · obtain ⟨n, hn, hk, hm⟩ := hl h
    exact ⟨n, hn, by omega, tdiv_neg_two_mul (by omega), hm⟩

theorem win_one (x : P) : Win g 1 x ↔ ∃ r ∈ g.gen x .all, Mated g r := by
  simp only [win_succ, lose_zero]

/-- value of a root move at child depth ≥ 1: exactly MATE − 2 if the opponent then mates in one,
    strictly less otherwise (no position of the two plies counted as a repetition) -/
theorem value_of_move_into_mate (E : Nat) (hg : GameOK g E) (fuel d1 : Nat) (t : DrawTable) (x : P) (hd : 1 ≤ d1)
    (hE : (E : Int) + 1 + (fuel + 2) < Gen.mateScore) :
    (¬ Win g 1 x → Spec.negamax g (fuel + 2) d1 1 t x < Gen.mateScore - 2) ∧
    (Win g 1 x → t.isThreefold (g.key x) = false →
      (∀ r ∈ g.gen x .all, ((t.add (g.key x)).getD t).isThreefold (g.key r) = false) →
      Spec.negamax g (fuel + 2) d1 1 t x = Gen.mateScore - 2) := by
  have hup := (negamax_range g E hg (fuel + 2) d1 1 t x (by omega)).2
  constructor
  · intro hnw
    -- a value above the evaluation bound is MATE − 1 − (2n − 1) with a forced mate in n, and n ≠ 1
    refine Int.not_le.mp fun hge => hnw ?_
    obtain ⟨n, hn, hv, hwin⟩ := (negamax_mate_char g E hg (fuel + 2) d1 1 t x (by omega)).1 (by omega)
    obtain rfl : n = 1 := by omega
    exact hwin
  · intro hw h3 hr3
    obtain ⟨r, hr, hmated⟩ := (win_one g x).mp hw
    obtain ⟨d', t', _, rfl, h⟩ := negamax_cases g (fuel + 1) d1 1 t x
    rcases h with ⟨h, _⟩ | ⟨h, _⟩ | ⟨h, _⟩ | ⟨h, _⟩ | ⟨_, hle, _⟩
    · rw [h3] at h; cases h
    · omega
    · rw [h] at hr; cases hr
    · rw [h] at hr; cases hr
    · have : _ ≤ Spec.negamax g (fuel + 2) d1 1 t x := hle r hr
      rw [negamax_mated g fuel d' _ _ r (hr3 r hr) hmated.1 hmated.2] at this
      omega

/-- **once its second (or third) iteration has finished the engine does not play into a mate in
    one if it can avoid it**: if some root move leaves the opponent without an immediate checkmate,
    the move the iteration remembers leaves the opponent without one too (every game with a bounded
    evaluation, every permuting oracle; no position within two plies of the root counted as a
    repetition by the table) -/
theorem does_not_play_into_mate_in_one (E : Nat) (hg : GameOK g E) (hord : OrdPerm ord) (fuel curDepth : Nat)
    (first : P) (t : DrawTable) (hcd1 : 1 ≤ curDepth - 1) (hcd : curDepth - 1 < 3)
    (hE : (E : Int) + 1 + (fuel + 2) < Gen.mateScore) (l : List P) (best : Option P)
    (hx3 : ∀ x ∈ l, t.isThreefold (g.key x) = false)
    (hr3 : ∀ x ∈ l, ∀ r ∈ g.gen x .all, ((t.add (g.key x)).getD t).isThreefold (g.key r) = false)
    (m : P) (hm : m ∈ l) (hsafe : ¬ Win g 1 m) :
    Triple (St t) (rootLoop g ord (fuel + 2) curDepth first l (-Gen.posInf) best)
      (fun r _ => ∃ A b, r = some (A, some b) ∧ b ∈ l ∧ ¬ Win g 1 b) := by
  refine (rootLoop_best g ord E hg hord (fuel + 2) curDepth first t hcd (by omega) l (List.ne_nil_of_mem hm)
    best).weaken (fun _ h => h) ?_
  rintro r _ ⟨A, b, hr, hb, hA, hmax⟩
  refine ⟨A, b, hr, hb, fun hw => ?_⟩
  have := (value_of_move_into_mate g E hg fuel (curDepth - 1) t m hcd1 hE).1 hsafe
  have := (value_of_move_into_mate g E hg fuel (curDepth - 1) t b hcd1 hE).2 hw (hx3 b hb) (hr3 b hb)
  have := hmax m hm
  omega

/-- a stalemated position (no move, not in check) is never given a mate score by the search
    specification, at any depth, ply or table: its value is 0 when the node is expanded (remaining
    depth ≥ 1) and the bounded static evaluation on the horizon — always within the evaluation
    bound, far outside the mate bands -/
theorem stalemate_is_never_a_mate_score (E : Nat) (hg : GameOK g E) (fuel d ply : Nat) (t : DrawTable) (p : P)
    (hgen : g.gen p .all = []) (hchk : g.inCheck p = false) :
    (-(E : Int) ≤ Spec.negamax g (fuel + 1) d ply t p ∧ Spec.negamax g (fuel + 1) d ply t p ≤ E) ∧
    (1 ≤ d → Spec.negamax g (fuel + 1) d ply t p = 0) := by
  obtain ⟨_, _, _, _, h⟩ := negamax_cases g fuel d ply t p
  rcases h with ⟨_, e⟩ | ⟨_, _, e⟩ | ⟨_, hc, _⟩ | ⟨_, _, e⟩ | ⟨hne, _⟩
  · rw [e]; exact ⟨⟨by omega, by omega⟩, fun _ => rfl⟩
  · rw [e]; exact ⟨qval_bound g E hg qFuel p, fun _ => by omega⟩
  · rw [hchk] at hc; cases hc
  · rw [e]; exact ⟨⟨by omega, by omega⟩, fun _ => rfl⟩
  · exact absurd hgen hne

theorem infoText_cp (i : Info) (h : ¬ (i.eval ≥ Gen.mateScore - Gen.mateWindow))
    (h' : ¬ (i.eval ≤ -Gen.mateScore + Gen.mateWindow)) :
    infoText i =
      s!"info pv{String.join (i.pv.map fun m => " " ++ mvText m)} depth {i.depth} nodes {i.nodes} score " ++
        s!"cp {i.eval}" :=
  (if_neg h).trans (if_neg h')

/-- a draw score (stalemate, repetition) is never printed as a mate: the info line of an accepted
    evaluation 0 is a `cp 0` line -/
theorem draw_is_reported_as_cp (i : Info) (h : i.eval = 0) :
    infoText i = s!"info pv{String.join (i.pv.map fun m => " " ++ mvText m)} depth {i.depth} nodes {i.nodes} score " ++ s!"cp {i.eval}" :=
  infoText_cp i (by rw [h]; decide) (by rw [h]; decide)

/-! ### non-vacuity: a three-position game in which the definitions say what they should -/

/-- position 0: one move, to position 1; position 1: no move, in check (mated); position 2: no move,
    not in check (stalemated) -/
def tinyGame : Game Nat where
  gen := fun p _ => if p = 0 then [1] else []
  eval := fun _ => 0
  inCheck := fun p => p == 1
  key := fun p => p.toUInt64
  null := id
  lastMove := fun _ => none
  oh := fun _ => 0
  withOh := fun p _ => p

example : Mated tinyGame 1 := ⟨rfl, rfl⟩
example : Win tinyGame 1 0 := ⟨1, by simp [tinyGame], Or.inl ⟨rfl, rfl⟩⟩
example : ¬ Mated tinyGame 2 := fun h => by cases h.2
example : ¬ Win tinyGame 1 2 := by
  rintro ⟨m, hm, _⟩
  simp [tinyGame] at hm
/-- and the minimax specification gives the mate its value: MATE − 1 at the root of position 0 -/
example : - Spec.negamax tinyGame 2 0 1 [] 1 = Gen.mateScore - 1 := by decide

end Walleye
