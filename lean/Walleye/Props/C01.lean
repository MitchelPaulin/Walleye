/-
  C01 — generated moves are exactly the legal moves.

  Status: SOUNDNESS and COMPLETENESS are proved on the model at full strength —
  `generated_moves_are_exactly_the_legal_moves`: for every well-formed position, a move is carried by
  some successor of the full move generation if and only if it is legal under the specification's
  rules (`no_legal_move_missing` is the converse direction: ordinary moves incl. every promotion piece,
  en passant, the four castlings).  `no_illegal_move_generated`: for every
  well-formed position (sentinel ring, no inner sentinel, king caches right, abstraction a legal
  position in the sense of the property), every successor of the full move generation carries a
  move that is LEGAL under the specification's rules (rules of movement of its piece, promotion
  flag exactly on the last rank, en passant only onto the target, castling only with right, rook,
  empty and unattacked squares — adjacent enemy king included —, own king not attacked afterwards).
  The pseudo-legal stage is an equivalence (`pseudo_targets_are_the_rules`, both directions).
  `exactly_the_legal_moves_along_chains`, `exactly_the_legal_moves_from_the_start_position`: the same
  at every position reachable by generated moves (either mode) from a well-formed position, in
  particular from the start position — legal positions are closed under legal moves.
  "No move appears twice" is proved as well (`no_move_appears_twice`, Proofs/NoDupGeo + NoDup): the
  target list of a piece is a sub-list of its square shifted by a fixed list of pairwise different
  offsets, and an on-board square determines its offset; successors of one target differ in the promotion piece, of
  different targets/origins in the squares, and the SPEC classifies ordinary, en passant and castling
  moves differently.  `exactly_the_legal_moves_of_every_fen_position`: all of this for every legal
  position given as FEN text and everything reachable from it.  The tie to the Rust code is the
  correspondence with the SPEC oracle (exhaustive castling lattice, two-ply special chains,
  playouts, constructed positions; move multisets compared).  Also proved, for every position satisfying the
  chain invariant and every hasher:
    * the SPEC side: `legalMoves` is sound, complete and duplicate free for `legal` (by construction);
    * `gen_targets_not_sentinel`: every pseudo-legal target is an on-board square that is empty or
      holds an enemy piece (never the mover's own piece, never off the board);
    * `gen_no_own_king_in_check`: a successor is pushed only if the mover's king is NOT attacked
      in it, as computed by `is_check` on the updated board and king cache;
    * `canCastle_iff` (Proofs/CastleSound, the four castlings): `can_castle_*` holds exactly if the right is set,
      the squares between are empty, and `is_check_cords` is false for the king square, the transit
      square and the destination square — with the enemy king compared against the PROBED square
      (`probe_hit`, Proofs/Check), so that the defect fixed in b8b9690 is excluded: `canCastle_false_of_adjacent_king`,
      of which `no_castling_next_to_enemy_king` is the white king-side reading.
-/
import Walleye.Spec.Rules
import Walleye.Proofs.Start
import Walleye.Proofs.Complete
import Walleye.Props.C02
import Walleye.Props.C05
import Walleye.Proofs.FenFaithful
import Walleye.Proofs.NoDup
namespace Walleye

theorem spec_legalMoves_sound_complete (P : Spec.Position) (m : Spec.Move) (hm : m ∈ Spec.allMoves) :
    m ∈ Spec.legalMoves P ↔ Spec.legal P m = true := Spec.mem_legalMoves_iff P m hm

theorem gen_targets_not_sentinel (piece : Piece) (row col : Nat) (b : Board) (mode : Mode) (hr : RingOK b) :
    ∀ pt ∈ getMoves piece row col b mode, OnBoard pt ∧ b.get pt.row pt.col ≠ .boundary :=
  fun pt hpt => ⟨getMoves_onBoard piece row col b mode hr pt hpt, getMoves_ne_boundary piece row col b mode pt hpt⟩

/-- nothing is pushed for a target after which the mover's own king is attacked -/
theorem gen_no_own_king_in_check (h : Hasher) (piece : Piece) (p : Pos) (sq mov : Point)
    (hc : isCheck (st1 h piece p sq mov) piece.color = true) : succsForTarget h piece p sq mov = [] := by
  rw [succsForTarget_eq, if_pos hc]

/-- no white king-side castling when the enemy king is next to f1 or g1 -/
theorem no_castling_next_to_enemy_king (p : Pos)
    (hadj : (((p.bk.row : Int) - 9).natAbs ≤ 1 ∧ ((p.bk.col : Int) - 7).natAbs ≤ 1) ∨
            (((p.bk.row : Int) - 9).natAbs ≤ 1 ∧ ((p.bk.col : Int) - 8).natAbs ≤ 1)) :
    canCastle p .wks = false :=
  hadj.elim (canCastle_false_of_adjacent_king p .wks 7 (.inl rfl))
    (canCastle_false_of_adjacent_king p .wks 8 (.inr rfl))

/-- **no illegal move appears**: every generated successor carries a legal move of the specification -/
theorem no_illegal_move_generated (h : Hasher) (p : Pos) (wf : WFp p) :
    ∀ q ∈ generateMoves h p .all, Spec.legal (abs p) (moveOf q) = true :=
  fun q hq => (generateMoves_sound h p wf q hq).1

/-- the pseudo-legal targets of every piece kind are exactly the specification's rules of movement -/
theorem pseudo_targets_are_the_rules (p : Pos) (hr : RingOK p.board) (hi : InnerOK p.board) (o : Spec.Sq) (ho : InB o)
    (pc : Piece) (hpc : p.board.get (toPt o).row (toPt o).col = .full pc) (mov : Point) :
    mov ∈ getMoves pc (toPt o).row (toPt o).col p.board .all ↔
      (OnBoard mov ∧ normalRule (abs p) o pc (specOf mov) = true) :=
  getMoves_spec p hr hi o ho pc hpc mov

/-- **no legal move is missing**: every legal move of the specification is carried by a successor -/
theorem no_legal_move_missing (h : Hasher) (p : Pos) (wf : WFp p) (m : Spec.Move)
    (hm : Spec.legal (abs p) m = true) : ∃ q ∈ generateMoves h p .all, moveOf q = m :=
  generateMoves_complete h p wf m hm

/-- **C01 on the model**: the moves the full move generation yields are exactly the legal moves -/
theorem generated_moves_are_exactly_the_legal_moves (h : Hasher) (p : Pos) (wf : WFp p) (m : Spec.Move) :
    (∃ q ∈ generateMoves h p .all, moveOf q = m) ↔ Spec.legal (abs p) m = true :=
  (generateMoves_exact h p wf .all m).trans (and_iff_left nofun)

/-- **C01 along chains of any length** -/
theorem exactly_the_legal_moves_along_chains (h : Hasher) (p q : Pos) (wf : WFp p) (hinv : Inv h p)
    (hc : GenChain h p q) (m : Spec.Move) :
    (∃ s ∈ generateMoves h q .all, moveOf s = m) ↔ Spec.legal (abs q) m = true :=
  generated_moves_are_exactly_the_legal_moves h q (gen_chain_wf h p q wf hinv hc).1 m

/-- every position reachable from the start position by generated moves: the real constants -/
theorem exactly_the_legal_moves_from_the_start_position (q : Pos) (hc : GenChain Hasher.real startPosition q)
    (m : Spec.Move) :
    (∃ s ∈ generateMoves Hasher.real q .all, moveOf s = m) ↔ Spec.legal (abs q) m = true :=
  exactly_the_legal_moves_along_chains Hasher.real startPosition q start_wf start_inv hc m

/-- **no move appears twice**: the successors carry pairwise different (from, to, promotion piece),
    at every position reachable by generated moves from a well-formed one -/
theorem no_move_appears_twice (h : Hasher) (p q : Pos) (wf : WFp p) (hinv : Inv h p) (hc : GenChain h p q) :
    ((generateMoves h q .all).map moveOf).Nodup :=
  generateMoves_nodup h q (gen_chain_wf h p q wf hinv hc).1 .all

/-- **C01 for every legal position given as FEN**, and for every position reached from it by generated
    moves: the position loaded from the canonical FEN text of a legal SPEC position `P` (any counters)
    abstracts to `P`, and the generator yields exactly the legal moves there and along every chain -/
theorem exactly_the_legal_moves_of_every_fen_position (h : Hasher) (P : Spec.Position) (hsz : P.cells.size = 64)
    (hlegal : Spec.LegalPosition P = true) (half full : List Char) (hh : CounterOK half) (hf : CounterOK full) :
    ∃ p, fromFen h (canonText P half full) = .ok p ∧ abs p = P ∧
      ∀ q, GenChain h p q →
        ((generateMoves h q .all).map moveOf).Nodup ∧
        ∀ m : Spec.Move, ((∃ s ∈ generateMoves h q .all, moveOf s = m) ↔ Spec.legal (abs q) m = true) := by
  obtain ⟨p, hload, habs, wf, hinv⟩ := fromFen_legal h P hsz hlegal half full hh hf
  exact ⟨p, hload, habs, fun q hc => ⟨no_move_appears_twice h p q wf hinv hc,
    fun m => exactly_the_legal_moves_along_chains h p q wf hinv hc m⟩⟩

/-- the premises are satisfiable: the start position is well formed -/
theorem start_is_well_formed : WFp startPosition := start_wf

end Walleye
