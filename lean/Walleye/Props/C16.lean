/-
  C16 — replies depend only on the current `position` command (logic of the session machine).
  The machine `step` has exactly two state components, board and repetition table; that the real
  process has no others is checked on every run by the T3 source audit and by black-box pairs of
  sessions (fresh vs after traffic).
-/
import Walleye.Props.C17
import Walleye.Props.C07
import Walleye.Model.SearchChess
namespace Walleye
open Str

variable (h : Hasher) (search : Pos → DrawTable → Nat → Option Pos)

/-- `position X` overwrites the whole state: whatever came before, the state after it is the same -/
theorem position_overwrites (σ σ' : Sess) (raw : List Char)
    (hc : String.ofList ((splitOn ' ' (cleanInput raw)).headD []) = "position") :
    step h search σ (some raw) = step h search σ' (some raw) :=
  (step_position h search σ raw hc).trans (step_position h search σ' raw hc).symm

/-- the reply to `go` is a function of (board, table, go line) and of the search outcome for them -/
theorem go_uses_only (σ σ' : Sess) (raw : List Char) (hb : σ.board = σ'.board) (ht : σ.table = σ'.table) :
    step h search σ (some raw) = step h search σ' (some raw) := by
  cases σ; cases σ'; cases hb; cases ht; rfl

/-- run a list of events; stops at the first exit / panic / hang -/
def run : Sess → List (Option (List Char)) → Sess × List String
  | σ, [] => (σ, [])
  | σ, e :: es =>
    match step h search σ e with
    | .cont σ' out => let (σ'', out') := run σ' es; (σ'', out ++ out')
    | _ => (σ, [])

/-- any prefix of events followed by `position X` leaves the same state as `position X` alone,
    provided the prefix does not terminate the process -/
theorem state_after_position_independent_of_history (σ σ' : Sess) (raw : List Char)
    (hc : String.ofList ((splitOn ' ' (cleanInput raw)).headD []) = "position")
    (p t) (hp : playOutPosition h (splitOn ' ' (cleanInput raw)) = some (p, t)) :
    (run h search σ [some raw]).1 = (run h search σ' [some raw]).1 := by
  simp only [run, step_position h search _ raw hc, hp]


/-- **the timed clause, composed**: two sessions with ARBITRARY earlier traffic receive the same
    `position X`; both then hold the same board and repetition record, so the searches started by a
    following `go` run on the same input, and if one allowance expires at consultation `k` and the
    other later or never, the improvements (depth, nodes, score, PV) reported under the shorter one
    are a prefix of those reported under the longer one — for every ordering behaviour `ord`
    (a deterministic sort is one), every fuel.  Zero allowance is the case k = 0. -/
theorem timed_replies_agree_up_to_the_shorter_run {O : Type} (σa σb σa' σb' : Sess) (raw : List Char)
    (outa outb : List String)
    (hc : String.ofList ((splitOn ' ' (cleanInput raw)).headD []) = "position")
    (ha : step h search σa (some raw) = .cont σa' outa) (hb : step h search σb (some raw) = .cont σb' outb)
    (ord : Oracle Pos O) (fuel : Nat) (o : O) (k : Nat) (e2 : Option Nat) (hl : Later k e2) :
    σa' = σb' ∧
    (getBestMove (chessGame h) ord fuel σa'.board (newSS (some k) σa'.table o)).st.infos <+:
      (getBestMove (chessGame h) ord fuel σb'.board (newSS e2 σb'.table o)).st.infos := by
  rw [position_overwrites h search σa σb raw hc, hb] at ha
  cases ha
  exact ⟨rfl, larger_allowance_only_extends (chessGame h) ord fuel σa'.board σa'.table o k e2 hl⟩

end Walleye
