/-
  C07 — running out of time anywhere in the search is safe.
  The search model is a function of (position, table, ordering oracle, expiry index k); every
  statement below holds for every game, every k (including "never"), every oracle.
  Not proved (decided by the every-k sweep with order-log replay): the absence of index panics
  beyond ply 99 (L1 in DESIGN.md: not reachable by any real time control, theoretical).
-/
import Walleye.Proofs.Reports
import Walleye.Proofs.PrefixSearch
import Walleye.Proofs.RootRange
import Walleye.Proofs.Paired
namespace Walleye
open DrawTable

variable {P O : Type} (g : Game P) (ord : Oracle P O)

/-- alpha-beta leaves every repetition count as it found it, on every normally finishing call -/
theorem table_restored_alphaBeta (fuel : Nat) (p : P) (depth ply : Nat) (a b : Int) (n : Bool)
    (s s' : SS P O) (v : Int) (h : alphaBeta g ord fuel p depth ply a b n s = .ok v s') :
    ∀ k, count s'.table k = count s.table k :=
  ((alphaBeta_inner g ord fuel p depth ply a b n).ok h).2

/-- and so does the whole of `get_best_move` -/
theorem table_restored (fuel : Nat) (root : P) (s s' : SS P O) (h : getBestMove g ord fuel root s = .ok () s') :
    ∀ k, count s'.table k = count s.table k :=
  ((getBestMove_root g ord fuel root).ok h).2

/-- every board handed back is a root successor — at every point of the run, also if it ends by
    expiry, panic or out of fuel -/
theorem sent_is_root_move (hord : OrdSub ord) (fuel : Nat) (root : P) (s : SS P O) (hs : s.reports = #[]) :
    ∀ q, Report.sent q ∈ (outState (getBestMove g ord fuel root s)).reports.toList → RootSucc g root q :=
  getBestMove_sends_root_successors g ord hord fuel root s hs

/-- only the root reports -/
theorem inner_search_reports_nothing (fuel : Nat) (p : P) (d ply : Nat) (a b : Int) (n : Bool) (s : SS P O) :
    (outState (alphaBeta g ord fuel p d ply a b n s)).reports = s.reports :=
  alphaBeta_silent g ord fuel p d ply a b n s

/-- the clock is a counter: a consultation that answers "out of time" is followed only by such answers -/
theorem expired_is_sticky_step (s s1 s2 : SS P O) (b2 : Bool) (h1 : tick s = .ok true s1)
    (hq : s1.queries ≤ s2.queries) (he : s2.expiry = s.expiry) (s3 : SS P O) (h2 : tick s2 = .ok b2 s3) : b2 = true := by
  obtain ⟨rfl, b1⟩ := tick_ok h1
  obtain ⟨rfl, rfl⟩ := tick_ok h2
  exact expired_sticky (s := s.asked) he (Nat.le_succ_of_le hq) b1.symm

/-- an aborted call returns the sentinel without touching the table or the reports -/
theorem aborted_call_returns_sentinel (fuel : Nat) (p : P) (d ply : Nat) (a b : Int) (n : Bool) (s s1 : SS P O)
    (ht : tick s = .ok true s1) : alphaBeta g ord (fuel + 1) p d ply a b n s = .ok (-Gen.posInf) s1 := by
  obtain ⟨rfl, hx⟩ := tick_ok ht
  exact alphaBeta_aborted g ord fuel p d ply a b n s hx.symm

/-- an alpha-beta call (any depth) returns a value in [-MATE, MATE], or the sentinel and then the
    clock has expired -/
theorem sentinel_only_after_expiry (E : Nat) (hE : ∀ p, -(E : Int) ≤ g.eval p ∧ g.eval p ≤ E)
    (hEm : (E : Int) ≤ Gen.mateScore) (fuel : Nat) (p : P) (d : Nat) (a b : Int) (s s' : SS P O) (v : Int)
    (hsz : s.cur.size = arrSize) (ha : a ≤ Gen.mateScore) (hb : -Gen.mateScore ≤ b)
    (h : alphaBeta g ord fuel p d 1 a b true s = .ok v s') :
    (-Gen.mateScore ≤ v ∧ v ≤ Gen.mateScore) ∨ ((v = Gen.posInf ∨ v = -Gen.posInf) ∧ s'.expired = true) :=
  (alphaBeta_range g ord E hE hEm fuel p d 1 a b true ha hb (fun _ => by decide) (by decide)).run s v s' hsz h

/-- the abort sentinel ±POS_INF — the value every call returns once the clock has said "out of
    time" — never appears on an info line, whatever the expiry index, depth or ordering (a corollary
    of the value-range invariant: Proofs/Range, RootRange) -/
theorem aborted_value_never_reported (E : Nat) (hE : ∀ p, -(E : Int) ≤ g.eval p ∧ g.eval p ≤ E)
    (hEp : (E : Int) + arrSize + Gen.nullPlyJump + 1 ≤ Gen.mateScore) (fuel : Nat) (root : P) (s : SS P O)
    (hs : s.reports = #[]) :
    ∀ i, Report.info i ∈ (outState (getBestMove g ord fuel root s)).reports.toList →
      i.eval ≠ Gen.posInf ∧ i.eval ≠ -Gen.posInf := by
  intro i hi
  have := getBestMove_scores_in_range g ord E hE hEp fuel root s (by intro i hi; rw [hs] at hi; cases hi) i hi
  unfold ScoreOK at this
  have hM := mateScore_eq
  have hP := posInf_eq
  omega

/-- **C07**: a larger allowance never changes the sequence of improvements reported under a smaller
    one — it only extends it (`e2 = none`: no expiry at all), whatever the outcome of either run.
    The two runs proceed in lockstep until consultation k; the argument is in Proofs/Prefix, PrefixSearch. -/
theorem larger_allowance_only_extends (fuel : Nat) (root : P) (table : DrawTable) (o : O) (k : Nat)
    (e2 : Option Nat) (hl : Later k e2) :
    (getBestMove g ord fuel root (newSS (some k) table o)).st.infos <+:
      (getBestMove g ord fuel root (newSS e2 table o)).st.infos :=
  reports_prefix g ord fuel root table o k e2 hl

/-- the two readings of `Later`: a later consultation, or never -/
example : Later 5 (some 9) ∧ Later 5 none := ⟨by show 5 ≤ 9; omega, trivial⟩

/-- (after fix 3ef6069) the first board on the channel is the head of the root ordering, handed over
    before any evaluation starts: every game, every clock expiry (also 0), every oracle that keeps a
    move, whatever the outcome of the run (normal end, expiry, panic, out of fuel); boards are only
    ever appended after it (Proofs/Reports) -/
theorem fallback_is_handed_over_first (hne : OrdNonempty ord) (fuel : Nat) (root : P) (s : SS P O)
    (hs : s.reports = #[]) (hroot : g.gen root .all ≠ []) :
    ∃ first tail rest, (ord s.ord s.expired 'R' (g.gen root .all)).1 = first :: tail ∧
      (outState (getBestMove g ord fuel root s)).reports.toList = Report.sent first :: rest :=
  getBestMove_hands_over_first g ord hne fuel root s hs hroot

/-- and it is the same board whatever the allowance: two runs from the same fresh state that differ
    only in the expiry index start their report streams with the same board -/
theorem fallback_is_independent_of_the_allowance (hne : OrdNonempty ord) (fuel : Nat) (root : P)
    (table : DrawTable) (o : O) (k k' : Option Nat) (hroot : g.gen root .all ≠ []) :
    ∃ first rest rest',
      (outState (getBestMove g ord fuel root (newSS k table o))).reports.toList = Report.sent first :: rest ∧
      (outState (getBestMove g ord fuel root (newSS k' table o))).reports.toList = Report.sent first :: rest' := by
  obtain ⟨f1, t1, r1, h1, e1⟩ := getBestMove_hands_over_first g ord hne fuel root (newSS k table o) rfl hroot
  obtain ⟨f2, t2, r2, h2, e2⟩ := getBestMove_hands_over_first g ord hne fuel root (newSS k' table o) rfl hroot
  have hx : ∀ x : Option Nat, (newSS (P := P) x table o).expired = false := by
    intro x; cases x <;> simp [newSS, SS.expired]
  have ho : ∀ x : Option Nat, (newSS (P := P) x table o).ord = o := fun _ => rfl
  rw [hx, ho] at h1 h2
  rw [h1] at h2
  injection h2 with hf _
  subst hf
  exact ⟨f1, r1, r2, e1, e2⟩

/-- **C07, for the boards too**: a `sent m` immediately followed by an `info i` is the improvement
    (m, i) (`infosOfB`; a `sent` without an info line after it — the fall-back board — is none).
    The sequence of improvements, boards and info lines together, reported with the clock expiring
    at consultation k is a prefix of the sequence reported with any later expiry, or none: every board
    handed over under the smaller allowance, with its depth, node count, score and PV, is handed over
    under the larger one as well, in the same order.  In particular no board and no score ever comes
    from a sub-search that the clock cut short (the unbounded run has none).  (The lockstep argument
    is generic in what is observed of the reports, `ObsOK` in Proofs/Prefix; the pairs are such an
    observation, `infosOfB_ok` in Proofs/PrefixPairs.) -/
theorem larger_allowance_only_extends_boards (fuel : Nat) (root : P) (table : DrawTable) (o : O) (k : Nat)
    (e2 : Option Nat) (hl : LaterB k e2) :
    infosOfB (getBestMove g ord fuel root (newSS (some k) table o)).stB.reports <+:
      infosOfB (getBestMove g ord fuel root (newSS e2 table o)).stB.reports :=
  reports_prefixB g ord fuel root table o k e2 hl

/-- the pairing, on a small example: fall-back board, two improvements, a trailing fall-back board -/
example (a b c : Nat) (i j : Info) :
    infosOfB (#[Report.sent a, .sent b, .info i, .sent c, .info j, .sent a] : Array (Report Nat)) = [(b, i), (c, j)] := rfl

/-- and nothing is lost by looking at pairs: at every point of every run, whatever its outcome, every
    info line is immediately preceded by the board handed over for it — the improvements as pairs
    project exactly onto the info lines -/
theorem every_info_line_has_its_board (fuel : Nat) (root : P) (s : SS P O) (hs : s.reports = #[]) :
    (infosOfB (outState (getBestMove g ord fuel root s)).reports).map Prod.snd =
      infosOf (outState (getBestMove g ord fuel root s)).reports :=
  getBestMove_paired g ord fuel root s hs

end Walleye
