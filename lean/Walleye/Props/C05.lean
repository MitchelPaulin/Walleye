/-
  C05 — the position hash depends only on the position, never on the route to it.
  Everything here holds for EVERY hasher (any 64-bit tables), so it does not depend on ChaCha8.

  Proved:  the four board.rs mutators keep "incremental key = key computed from scratch";
           every successor of `generate_moves` (both modes, all move kinds: quiet, capture, double
           step, en passant, promotion x4, castling x4) keeps it, together with the ring and the
           en-passant well-formedness it needs; hence every chain of generated successors of any
           length (`gen_chain_inv`, Props/C02); hence two routes to the same position give the same key
           (`route_independent`).
  Also proved: the FEN loader (`key_fromFen`: every accepted string, every hasher) and the text-move
  applier (`key_makeMove`, `key_replay`: every replayed move list whose moves satisfy the two
  legality facts the applier relies on) produce exact keys; `key_sensitive_*`: for the constants
  dumped from the running engine every piece-square word on the 64 squares, the side word, the four
  castling words and the eight en passant words are non-zero and pairwise distinct where they can
  replace each other, so changing one component changes the key.
-/
import Walleye.Proofs.MakeMoveKey
import Walleye.Proofs.FenRun
import Walleye.Proofs.TableWalk
import Walleye.Proofs.Start
import Walleye.Props.C02
namespace Walleye

/-! ### the mutators (board.rs:530-591), for every hasher -/

theorem key_swapColor (h : Hasher) (p : Pos) : KeyOK h p → KeyOK h (p.swapColor h) := keyOK_swapColor h p

theorem key_takeAwayCastlingRights (h : Hasher) (p : Pos) (ct : CastlingType) :
    KeyOK h p → KeyOK h (p.takeAway h ct) := keyOK_takeAway h p ct

theorem key_unsetPawnDoubleMove (h : Hasher) (p : Pos) : KeyOK h p → KeyOK h (p.unsetEp h) := keyOK_unsetEp h p

theorem key_movePiece (h : Hasher) (p : Pos) (s e : Point) (hr : RingOK p.board) (he : OnBoard e) :
    KeyOK h p → KeyOK h (p.movePiece h s e) := keyOK_movePiece h p s e hr he

/-- every successor of `generate_moves`, in either mode, carries the exact key (and the invariant
    needed to go on) -/
theorem key_gen (h : Hasher) (p : Pos) (mode : Mode) (hinv : Inv h p) :
    ∀ s ∈ generateMoves h p mode, Inv h s :=
  gen_succ_inv h p mode hinv

/-- positions reachable from `p` by following generated successors, any modes, any length -/
inductive Chain (h : Hasher) : Pos → Pos → Prop where
  | refl (p : Pos) : Chain h p p
  | step {p q s : Pos} (mode : Mode) : Chain h p q → s ∈ generateMoves h q mode → Chain h p s

theorem Chain.gen {h : Hasher} {p q : Pos} (hc : Chain h p q) : GenChain h p q := by
  induction hc with
  | refl => exact .refl _
  | step mode _ hs ih => exact .step mode ih hs

/-- the components the key is a function of -/
def SameCore (p q : Pos) : Prop :=
  (∀ pt, OnBoard pt → p.board.get pt.row pt.col = q.board.get pt.row pt.col) ∧ p.toMove = q.toMove ∧
  p.wks = q.wks ∧ p.wqs = q.wqs ∧ p.bks = q.bks ∧ p.bqs = q.bqs ∧
  p.ep.map (·.col) = q.ep.map (·.col)

theorem scratchKey_core (h : Hasher) (p q : Pos) (hc : SameCore p q) : scratchKey h p = scratchKey h q := by
  obtain ⟨hb, ht, h1, h2, h3, h4, he⟩ := hc
  unfold scratchKey
  have hp : placementKey h p.board = placementKey h q.board := by
    unfold placementKey
    apply xorFold_congr
    intro pt hpt
    rw [hb pt ((mem_boardCoords pt).mp hpt)]
  have hep : epKey h p.ep = epKey h q.ep := by
    unfold epKey
    cases hpe : p.ep <;> cases hqe : q.ep <;> simp_all
  rw [hp, ht, h1, h2, h3, h4, hep]

/-- two positions with the same placement, side, rights and en passant file, each produced by any
    key-exact route, have the same key -/
theorem route_independent (h : Hasher) (p q : Pos) (hp : KeyOK h p) (hq : KeyOK h q) (hc : SameCore p q) :
    p.key = q.key := by
  unfold KeyOK at hp hq
  rw [hp, hq, scratchKey_core h p q hc]

/-- in particular: any two chains of generated successors (any transposed move orders) from
    key-exact starts that end in the same position end with the same key -/
theorem route_independent_chains_partial (h : Hasher) (a b p q : Pos) (ha : Inv h a) (hb : Inv h b)
    (hcp : Chain h a p) (hcq : Chain h b q) (hc : SameCore p q) : p.key = q.key :=
  route_independent h p q (gen_chain_inv h a p ha hcp.gen).key (gen_chain_inv h b q hb hcq.gen).key hc

theorem key_fromFen (h : Hasher) (s : List Char) (p : Pos) (hc : fromFen h s = .ok p) :
    KeyOK h p ∧ RingOK p.board := fromFen_inv h s p hc

/-- a FEN without en passant field gives the full chain invariant, so everything above applies -/
theorem inv_fromFen (h : Hasher) (s : List Char) (p : Pos) (hc : fromFen h s = .ok p) (hep : p.ep = none) :
    Inv h p := by
  refine .of_good (fromFen_good hc) fun t ht => ?_
  rw [hep] at ht
  cases ht

theorem key_makeMove (h : Hasher) (p p' : Pos) (mv : List Char) (hr : RingOK p.board) (hk : KeyOK h p)
    (hok : MoveTextOK p mv) (hm : makeMove h p mv = some p') : KeyOK h p' ∧ RingOK p'.board :=
  let g := Good.makeMove ⟨hr, hk⟩ hok hm
  ⟨g.2, g.1⟩

/-- a replayed game: every move text satisfies `MoveTextOK` in the position it is applied to -/
inductive Replay (h : Hasher) : Pos → List (List Char) → Pos → Prop where
  | nil (p : Pos) : Replay h p [] p
  | cons {p q r : Pos} {mv : List Char} {ms : List (List Char)} :
      MoveTextOK p mv → makeMove h p mv = some q → Replay h q ms r → Replay h p (mv :: ms) r

theorem Replay.good {h : Hasher} {p r : Pos} {ms : List (List Char)} (hrep : Replay h p ms r) (hg : Good h p) :
    Good h r := by
  induction hrep with
  | nil => exact hg
  | cons hok hm _ ih => exact ih (hg.makeMove hok hm)

/-- `position … moves …`: the key is exact after every prefix of every replayed game -/
theorem key_replay (h : Hasher) (p r : Pos) (ms : List (List Char)) (hr : RingOK p.board) (hk : KeyOK h p)
    (hrep : Replay h p ms r) : KeyOK h r ∧ RingOK r.board :=
  let g := hrep.good ⟨hr, hk⟩
  ⟨g.2, g.1⟩

/-- FEN, then replayed moves, then generated successors — in any combination the same position has
    the same key -/
theorem route_independent_all_producers (h : Hasher) (p q : Pos) (hp : KeyOK h p) (hq : KeyOK h q)
    (hc : SameCore p q) : p.key = q.key := route_independent h p q hp hq hc

def onBoardPoints : List Point := boardCoords

def allPieces : List Piece :=
  [⟨.white, .king⟩, ⟨.white, .queen⟩, ⟨.white, .rook⟩, ⟨.white, .bishop⟩, ⟨.white, .knight⟩, ⟨.white, .pawn⟩,
   ⟨.black, .king⟩, ⟨.black, .queen⟩, ⟨.black, .rook⟩, ⟨.black, .bishop⟩, ⟨.black, .knight⟩, ⟨.black, .pawn⟩]

def distinctWords : List UInt64 → Bool
  | [] => true
  | x :: xs => xs.all (fun y => x != y) && distinctWords xs

/-- on every square: the twelve piece words are non-zero and pairwise distinct -/
def pieceWordsOK : Bool :=
  onBoardPoints.all fun pt =>
    let ws := allPieces.map fun pc => Hasher.real.piece pc pt
    ws.all (· != 0) && distinctWords ws

/-- side word, castling words, en passant words of the eight files: non-zero; the latter distinct -/
def otherWordsOK : Bool :=
  Hasher.real.side != 0 &&
  [CastlingType.wks, .wqs, .bks, .bqs].all (fun ct => Hasher.real.castle ct != 0) &&
  ((List.range 8).map fun i => Hasher.real.epFile (i + 2)).all (· != 0) &&
  distinctWords ((List.range 8).map fun i => Hasher.real.epFile (i + 2))

/-- `pieceWordsOK` as one pass over the table: the twelve blocks of 144 words side by side -/
theorem zPiece_lockstep :
    lockstep (fun ws => ws.all (· != 0) && distinctWords ws) (fun j => decide (OnBoard ⟨j / 12, j % 12⟩))
      (suffixes 144 Gen.zPiece.toList 12) 0 144 = true := by decide +kernel

theorem key_sensitive_pieces : pieceWordsOK = true := by
  unfold pieceWordsOK onBoardPoints
  rw [List.all_eq_true]
  intro pt hpt
  have hb := (mem_boardCoords pt).mp hpt
  unfold OnBoard at hb
  have h := lockstep_spec _ _ _ _ _ zPiece_lockstep (pt.row * 12 + pt.col) (by omega)
    (by rw [Nat.zero_add, decide_eq_true_eq]; unfold OnBoard; simp only; omega)
  rw [suffixes_getD] at h
  have e : allPieces.map (fun pc => Hasher.real.piece pc pt) =
      (List.range 12).map fun k => Gen.zPiece.toList.getD (144 * k + (pt.row * 12 + pt.col)) 0 := by
    rw [show List.range 12 = allPieces.map pieceIndex from by decide, List.map_map]
    refine List.map_congr_left fun pc _ => ?_
    dsimp only [Hasher.real, Function.comp]
    rw [List.getD_eq_getElem?_getD, Array.getD_eq_getD_getElem?, Array.getElem?_toList]
    congr 2; omega
  simp only
  rw [e]; exact h

theorem key_sensitive_others : otherWordsOK = true := by decide +kernel

/-- replacing the content of one square by a different content changes the key (real constants) -/
theorem key_sensitive_square (b : Board) (pt : Point) (v : Square) (hpt : OnBoard pt)
    (hne : sqKey Hasher.real (b.get pt.row pt.col) pt ≠ sqKey Hasher.real v pt) :
    placementKey Hasher.real (b.set pt.row pt.col v) ≠ placementKey Hasher.real b :=
  fun e => hne ((placementKey_set_eq_iff _ b pt v hpt).mp e)

/-! ### non-vacuity: the start position (loaded by the model's FEN reader, real hasher constants)
    satisfies the invariant, so the theorems above apply to every game from the start position -/

theorem start_inv : Inv Hasher.real startPosition := start_loads.2.2.2

end Walleye
