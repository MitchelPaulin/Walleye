/-
  C03 — every `go` is answered by exactly one legal, well-formed bestmove (logic part).
  Proved: what the search thread can send, what the polling loop returns, what the dispatcher
  prints.  With C01 (`generateMoves_sound`): `sent_moves_are_legal` — every board the search thread
  of the chess instance hands back, at every point of every run, carries a move that is LEGAL in the
  root position and is the specification's position after it.  That real threads realise some
  schedule of the polling model is observed black-box.
  Then the two threads of one `go` (after fix cdfd65d) as machines over EVERY schedule (Model/Handover: one
  step per critical section; Model/HandoverFine: lock, send, print, drain, close as steps of their own): the
  shape of standard output, progress under a fair schedule, exclusion, no deadlock.
-/
import Walleye.Props.C17
import Walleye.Props.C08
import Walleye.Props.C04
import Walleye.Proofs.Reports
import Walleye.Proofs.GenSound
import Walleye.Proofs.LegalPres
import Walleye.Proofs.MakeMoveObs
import Walleye.Model.SearchChess
import Walleye.Proofs.Handover
import Walleye.Proofs.HandoverSearch
import Walleye.Proofs.HandoverFine
namespace Walleye
open Str

/-- every board sent by `get_best_move` is a successor of the root (for every game, clock expiry,
    ordering oracle that returns a sub-list, at every point of the run) -/
theorem root_sends_subset {P O : Type} (g : Game P) (ord : Oracle P O) (hord : OrdSub ord) (fuel : Nat)
    (root : P) (s : SS P O) (hs : s.reports = #[]) :
    ∀ q, Report.sent q ∈ (outState (getBestMove g ord fuel root s)).reports.toList →
      ∃ m ∈ g.gen root .all, q = m ∨ q = g.withOh m Gen.posInf :=
  getBestMove_sends_root_successors g ord hord fuel root s hs

/-- the inner search never prints or sends anything by itself -/
theorem inner_search_is_silent {P O : Type} (g : Game P) (ord : Oracle P O) (fuel : Nat) (p : P)
    (d ply : Nat) (a b : Int) (n : Bool) (s : SS P O) :
    (outState (alphaBeta g ord fuel p d ply a b n s)).reports = s.reports :=
  alphaBeta_silent g ord fuel p d ply a b n s

/-- every board the search of the chess instance sends carries a legal move of the root position
    (any clock expiry, any ordering oracle that returns a sub-list, whatever the outcome) -/
theorem sent_moves_are_legal {O : Type} (h : Hasher) (ord : Oracle Pos O) (hord : OrdSub ord) (fuel : Nat)
    (root : Pos) (wf : WFp root) (s : SS Pos O) (hs : s.reports = #[]) :
    ∀ q, Report.sent q ∈ (outState (getBestMove (chessGame h) ord fuel root s)).reports.toList →
      Spec.legal (abs root) (moveOf q) = true ∧ abs q = Spec.apply (abs root) (moveOf q) := by
  intro q hq
  obtain ⟨m, hm, hor⟩ := getBestMove_sends_root_successors (chessGame h) ord hord fuel root s hs q hq
  have hsound := generateMoves_sound h root wf m hm
  rcases hor with rfl | rfl
  · exact hsound
  · exact hsound

variable (h : Hasher) (search : Pos → DrawTable → Nat → Option Pos)

/-- one `go` prints exactly one line, and it is a `bestmove` line -/
theorem go_prints_exactly_one_bestmove (σ σ' : Sess) (raw : List Char) (out : List String)
    (hc : String.ofList ((splitOn ' ' (cleanInput raw)).headD []) = "go")
    (hs : step h search σ (some raw) = .cont σ' out) :
    ∃ t : List Char, out = [String.ofList ("bestmove ".toList ++ t)] := by
  obtain ⟨_, _, ⟨_, _, rfl⟩ | ⟨_, _, t, _, _, _, rfl⟩⟩ := step_go_cont h search hc hs
  · exact ⟨"0000".toList, by decide⟩
  · exact ⟨t, rfl⟩

/-- (after fix 3ef6069) the search thread hands over a board before its first evaluation starts,
    whenever the root has a move: for every game, clock expiry (also 0), oracle that keeps a move,
    and whatever the outcome of the run — so the polling loop never waits in vain -/
theorem search_always_hands_over_a_move {P O : Type} (g : Game P) (ord : Oracle P O) (hne : OrdNonempty ord)
    (fuel : Nat) (root : P) (s : SS P O) (hs : s.reports = #[]) (hroot : g.gen root .all ≠ []) :
    ∃ first rest, (outState (getBestMove g ord fuel root s)).reports.toList = Report.sent first :: rest := by
  obtain ⟨first, _, rest, _, h⟩ := getBestMove_hands_over_first g ord hne fuel root s hs hroot
  exact ⟨first, rest, h⟩

/-- the text printed for a root successor is `bestmove` + the long algebraic text of a move that is
    legal in the root position (promotion letter exactly when that move promotes: `uciText` prints
    the promotion piece of the move and C01 says which moves carry one), and the board is the
    specification's position after that move, well-formed again -/
theorem bestmove_text_is_a_legal_move (h : Hasher) (root : Pos) (wf : WFp root) (hinv : Inv h root) (q : Pos)
    (hq : ∃ m ∈ generateMoves h root .all, q = m ∨ q = (chessGame h).withOh m Gen.posInf) :
    bestmoveLine q = some ("bestmove ".toList ++ uciText (moveOf q)) ∧
    Spec.legal (abs root) (moveOf q) = true ∧ abs q = Spec.apply (abs root) (moveOf q) ∧ WFp q ∧ Inv h q := by
  obtain ⟨m, hm, hor⟩ := hq
  obtain ⟨a, b, _, hl, ha, hb, _, _⟩ := makeMove_reproduces_successor h root wf m hm
  obtain ⟨hlegal, habs⟩ := generateMoves_sound h root wf m hm
  obtain ⟨hwf, hinvm⟩ := generateMoves_wf h root wf hinv m hm
  have hline : bestmoveLine m = some ("bestmove ".toList ++ uciText (moveOf m)) := by
    rw [bestmoveLine, moveText_eq m a b hl, uciText_moveOf m a b hl ha hb]; rfl
  -- the PV tag changes the ordering value only, which none of these facts reads
  rcases hor with rfl | rfl
  · exact ⟨hline, hlegal, habs, hwf, hinvm⟩
  · exact ⟨hline, hlegal, habs, ⟨hwf.ring, hwf.inner, hwf.kings, hwf.lp, hwf.epb⟩, ⟨hinvm.ring, hinvm.ep, hinvm.key⟩⟩

theorem go_step_legal {σ σ' : Sess} {raw : List Char} {out : List String}
    (wf : WFp σ.board) (hinv : Inv h σ.board)
    (hc : String.ofList ((splitOn ' ' (cleanInput raw)).headD []) = "go")
    (hs : step h search σ (some raw) = .cont σ' out)
    (hreal : ∀ gt b, parseGoCommand (splitOn ' ' (cleanInput raw)) = some gt →
      search σ.board σ.table (calculateTimeSlice gt σ.board.toMove) = some b → RootSucc (chessGame h) σ.board b) :
    (generateMoves h σ.board .all = [] ∧ σ' = σ ∧ out = ["bestmove 0000"]) ∨
    ∃ m : Spec.Move, Spec.legal (abs σ.board) m = true ∧
      out = [String.ofList ("bestmove ".toList ++ uciText m)] ∧
      abs σ'.board = Spec.apply (abs σ.board) m ∧ WFp σ'.board ∧ Inv h σ'.board ∧ σ'.table = σ.table := by
  obtain ⟨gt, hg, h0 | ⟨_, b, t, hb, ht, rfl, rfl⟩⟩ := step_go_cont h search hc hs
  · exact .inl h0
  · obtain ⟨hline, hlegal, habs, hwf, hinv'⟩ := bestmove_text_is_a_legal_move h σ.board wf hinv b (hreal gt b hg hb)
    have : t = uciText (moveOf b) := by simpa [bestmoveLine, ht] using hline
    exact .inr ⟨moveOf b, hlegal, by rw [this], habs, hwf, hinv', rfl⟩

theorem polled_root_successor {O : Type} (ord : Oracle Pos O) (hord : OrdSub ord) (fuel : Nat) (root : Pos)
    (s0 : SS Pos O) (hs0 : s0.reports = #[]) {sched : List (Bool × Option Pos)}
    (harr : ∀ b, some b ∈ sched.map (·.2) →
      Report.sent b ∈ (outState (getBestMove (chessGame h) ord fuel root s0)).reports.toList)
    {b : Pos} (hb : ioLoop sched none = some b) : RootSucc (chessGame h) root b :=
  getBestMove_sends_root_successors (chessGame h) ord hord fuel root s0 hs0 b
    (harr b ((ioLoop_result_mem sched none hb).resolve_left nofun))

/-- **one `go`, end to end, on the model**: the current position is well-formed (a legal position,
    as produced by `position` from any legal FEN / move list — C15, C04) and has a legal move; the
    board the dispatcher plays was obtained by the polling loop, under ANY schedule of polls, from
    boards the search thread sent, under ANY clock expiry and ordering.  Then the `go` prints exactly
    one line, `bestmove` + the UCI long algebraic text of a move that is legal in the current
    position, and the engine's position becomes the rules' position after that move, well-formed
    again — so the statement applies to the next `go` without a new `position` as well. -/
theorem go_is_answered_with_one_legal_bestmove {O : Type} (h : Hasher) (search : Pos → DrawTable → Nat → Option Pos)
    (ord : Oracle Pos O) (hord : OrdSub ord) (fuel : Nat) (s0 : SS Pos O) (hs0 : s0.reports = #[])
    (σ σ' : Sess) (raw : List Char) (out : List String) (gt : GameTime)
    (wf : WFp σ.board) (hinv : Inv h σ.board)
    (hc : String.ofList ((splitOn ' ' (cleanInput raw)).headD []) = "go")
    (hg : parseGoCommand (splitOn ' ' (cleanInput raw)) = some gt)
    (hne : generateMoves h σ.board .all ≠ [])
    (sched : List (Bool × Option Pos))
    (hsearch : search σ.board σ.table (calculateTimeSlice gt σ.board.toMove) = ioLoop sched none)
    (harr : ∀ b, some b ∈ sched.map (·.2) →
      Report.sent b ∈ (outState (getBestMove (chessGame h) ord fuel σ.board s0)).reports.toList)
    (hs : step h search σ (some raw) = .cont σ' out) :
    ∃ m : Spec.Move, Spec.legal (abs σ.board) m = true ∧
      out = [String.ofList ("bestmove ".toList ++ uciText m)] ∧
      abs σ'.board = Spec.apply (abs σ.board) m ∧ WFp σ'.board ∧ Inv h σ'.board ∧ σ'.table = σ.table := by
  refine (go_step_legal h search wf hinv hc hs fun gt' b hg' hb => ?_).resolve_left (fun h0 => hne h0.1)
  cases hg.symm.trans hg'
  exact polled_root_successor h ord hord fuel σ.board s0 hs0 harr (hsearch ▸ hb)

/-- what the threads and the channel deliver, as far as the dispatcher can tell: whenever `search`
    hands back a board for a well-formed position with a legal move, that board is a root successor
    (possibly re-tagged as the PV node).  `go_is_answered_with_one_legal_bestmove` derives this from
    the polling loop over any schedule and the search under any clock and ordering. -/
def Realised (h : Hasher) (search : Pos → DrawTable → Nat → Option Pos) : Prop :=
  ∀ board table slice b, WFp board → Inv h board → search board table slice = some b →
    ∃ m ∈ generateMoves h board .all, b = m ∨ b = (chessGame h).withOh m Gen.posInf

/-- the moves are legal one after the other -/
inductive LegalChain : Spec.Position → List Spec.Move → Prop
  | nil (P : Spec.Position) : LegalChain P []
  | cons {P : Spec.Position} {m : Spec.Move} {ms : List Spec.Move} :
      Spec.legal P m = true → LegalChain (Spec.apply P m) ms → LegalChain P (m :: ms)

theorem go_lines_on_terminal_position {σ σ' : Sess} {raws : List (List Char)} {outs : List (List String)}
    (hterm : generateMoves h σ.board .all = [])
    (hgo : ∀ raw ∈ raws, String.ofList ((splitOn ' ' (cleanInput raw)).headD []) = "go")
    (hrun : runLines h search σ raws = some (σ', outs)) :
    σ' = σ ∧ outs = List.replicate raws.length ["bestmove 0000"] := by
  induction raws generalizing outs with
  | nil => cases hrun; exact ⟨rfl, rfl⟩
  | cons raw rest ih =>
    obtain ⟨hraw, hrest⟩ := List.forall_mem_cons.mp hgo
    obtain ⟨σ1, out, outs', hst, hr, rfl⟩ := runLines_cons h search hrun
    obtain ⟨_, _, ⟨_, rfl, rfl⟩ | ⟨hne, _⟩⟩ := step_go_cont h search hraw hst
    · obtain ⟨rfl, rfl⟩ := ih hrest hr
      exact ⟨rfl, rfl⟩
    · exact absurd hterm hne

/-- consecutive `go` lines, null-move answers included: the answers are a legal chain of moves and then, once
    the engine's own answers have ended the game, null moves only, the position kept -/
theorem consecutive_go_answers (hreal : Realised h search) {σ σ' : Sess} {raws : List (List Char)}
    {outs : List (List String)} (wf : WFp σ.board) (hinv : Inv h σ.board)
    (hgo : ∀ raw ∈ raws, String.ofList ((splitOn ' ' (cleanInput raw)).headD []) = "go")
    (hrun : runLines h search σ raws = some (σ', outs)) :
    ∃ (ms : List Spec.Move) (k : Nat), LegalChain (abs σ.board) ms ∧
      outs = ms.map (fun m => [String.ofList ("bestmove ".toList ++ uciText m)]) ++
        List.replicate k ["bestmove 0000"] ∧
      (k ≠ 0 → generateMoves h σ'.board .all = []) ∧
      abs σ'.board = ms.foldl Spec.apply (abs σ.board) ∧ WFp σ'.board ∧ Inv h σ'.board := by
  induction raws generalizing σ outs with
  | nil =>
    cases hrun
    exact ⟨[], 0, .nil _, rfl, nofun, rfl, wf, hinv⟩
  | cons raw rest ih =>
    obtain ⟨hraw, hrest⟩ := List.forall_mem_cons.mp hgo
    obtain ⟨σ1, out, outs', hst, hr, rfl⟩ := runLines_cons h search hrun
    rcases go_step_legal h search wf hinv hraw hst (fun _ b _ hb => hreal _ _ _ b wf hinv hb) with
      ⟨hterm, _, _⟩ | ⟨m, hlegal, hout, habs, hwf1, hinv1, _⟩
    · obtain ⟨rfl, houts⟩ := go_lines_on_terminal_position h search hterm hgo hrun
      exact ⟨[], (raw :: rest).length, .nil _, houts, fun _ => hterm, rfl, wf, hinv⟩
    · obtain ⟨ms, k, hchain, houts, hk, hfin, hwf', hinv'⟩ := ih hwf1 hinv1 hrest hr
      exact ⟨m :: ms, k, .cons hlegal (habs ▸ hchain), by rw [List.map_cons, List.cons_append, hout, houts], hk,
        by rw [List.foldl_cons, hfin, habs], hwf', hinv'⟩

/-- **consecutive `go` commands**: from a well-formed position, any number of `go` lines (any clock
    values) that are all answered print exactly one `bestmove` each; the moves on them form a chain
    in which each is legal in the position reached by playing the engine's previous answers, and the
    engine ends up holding exactly that position.  (A `go` on a position without legal moves answers
    the null move and ends the chain: the statement is about answers in positions that have a move.) -/
theorem consecutive_go_answers_are_legal (h : Hasher) (search : Pos → DrawTable → Nat → Option Pos)
    (hreal : Realised h search) :
    ∀ (raws : List (List Char)) (σ σ' : Sess) (outs : List (List String)),
      WFp σ.board → Inv h σ.board →
      (∀ raw ∈ raws, String.ofList ((splitOn ' ' (cleanInput raw)).headD []) = "go") →
      runLines h search σ raws = some (σ', outs) →
      (∀ o ∈ outs, o ≠ ["bestmove 0000"]) →
      ∃ ms : List Spec.Move, LegalChain (abs σ.board) ms ∧
        outs = ms.map (fun m => [String.ofList ("bestmove ".toList ++ uciText m)]) ∧
        abs σ'.board = ms.foldl Spec.apply (abs σ.board) ∧ WFp σ'.board ∧ Inv h σ'.board := by
  intro raws σ σ' outs wf hinv hgo hrun hnn
  obtain ⟨ms, k, hchain, houts, _, hfin, hwf', hinv'⟩ := consecutive_go_answers h search hreal wf hinv hgo hrun
  cases k with
  | zero => exact ⟨ms, hchain, by simpa using houts, hfin, hwf', hinv'⟩
  | succ k => exact absurd rfl (hnn _ (by rw [houts]; simp [List.replicate_succ]))

/-- all that `Realised` asks of the threads and the channel: whatever the dispatcher gets back, the run of the
    search (any clock, any ordering) has sent -/
theorem realised_of_sent {O : Type} (h : Hasher) (search : Pos → DrawTable → Nat → Option Pos)
    (ord : Oracle Pos O) (hord : OrdSub ord) (fuel : Nat)
    (s0 : Pos → DrawTable → Nat → SS Pos O) (hs0 : ∀ b t sl, (s0 b t sl).reports = #[])
    (hsent : ∀ b t sl x, search b t sl = some x →
      Report.sent x ∈ (outState (getBestMove (chessGame h) ord fuel b (s0 b t sl))).reports.toList) :
    Realised h search := fun board table slice b _ _ hs =>
  getBestMove_sends_root_successors (chessGame h) ord hord fuel board _ (hs0 board table slice) b
    (hsent board table slice b hs)

/-- `Realised` is what the polling loop over ANY schedule and the search under ANY clock and ordering
    deliver (so the hypothesis of `consecutive_go_answers_are_legal` is not an extra assumption about
    the search, only about threads realising some schedule) -/
theorem realised_of_polling {O : Type} (h : Hasher) (search : Pos → DrawTable → Nat → Option Pos)
    (ord : Oracle Pos O) (hord : OrdSub ord) (fuel : Nat)
    (s0 : Pos → DrawTable → Nat → SS Pos O) (hs0 : ∀ b t sl, (s0 b t sl).reports = #[])
    (sched : Pos → DrawTable → Nat → List (Bool × Option Pos))
    (hsearch : ∀ b t sl, search b t sl = ioLoop (sched b t sl) none)
    (harr : ∀ b t sl x, some x ∈ (sched b t sl).map (·.2) →
      Report.sent x ∈ (outState (getBestMove (chessGame h) ord fuel b (s0 b t sl))).reports.toList) :
    Realised h search :=
  realised_of_sent h search ord hord fuel s0 hs0 fun b t sl x hs =>
    harr b t sl x ((ioLoop_result_mem _ none (hsearch b t sl ▸ hs)).resolve_left nofun)

/-- **a whole session on the model**: `position startpos moves <a legal game>` followed by any number
    of answered `go` lines (any clocks): the k-th answer is `bestmove` + the UCI text of a move that
    is legal in the position reached by the game followed by the engine's previous answers, and the
    engine ends up holding exactly that position — for every hasher, every behaviour of the search
    thread and channel that hands back what the search sent (`Realised`) -/
theorem position_then_consecutive_go (h : Hasher) (search : Pos → DrawTable → Nat → Option Pos)
    (hreal : Realised h search) (game : List Spec.Move) (hgame : LegalSeq (abs startPosition) game)
    (rawPos : List Char)
    (htok : splitOn ' ' (cleanInput rawPos) =
      ["position".toList, "startpos".toList, "moves".toList] ++ game.map uciText)
    (σ0 σ1 σ' : Sess) (out0 : List String) (raws : List (List Char)) (outs : List (List String))
    (hpos : step h search σ0 (some rawPos) = .cont σ1 out0)
    (hgo : ∀ raw ∈ raws, String.ofList ((splitOn ' ' (cleanInput raw)).headD []) = "go")
    (hrun : runLines h search σ1 raws = some (σ', outs))
    (hnn : ∀ o ∈ outs, o ≠ ["bestmove 0000"]) :
    out0 = [] ∧
    ∃ ms : List Spec.Move, LegalChain (game.foldl Spec.apply (abs startPosition)) ms ∧
      outs = ms.map (fun m => [String.ofList ("bestmove ".toList ++ uciText m)]) ∧
      abs σ'.board = ms.foldl Spec.apply (game.foldl Spec.apply (abs startPosition)) := by
  rw [step_position h search σ0 rawPos (by rw [htok]; rfl)] at hpos
  cases hp : playOutPosition h (splitOn ' ' (cleanInput rawPos)) with
  | none => rw [hp] at hpos; cases hpos
  | some pt =>
    rw [hp] at hpos
    obtain ⟨p, t⟩ := pt
    injection hpos with hσ hout
    subst hσ
    rw [htok] at hp
    obtain ⟨habs, hwf, hinv⟩ := position_startpos_holds_the_game h game hgame p t hp
    obtain ⟨ms, hchain, houts, hfin, _, _⟩ :=
      consecutive_go_answers_are_legal h search hreal raws ⟨p, t⟩ σ' outs hwf hinv hgo hrun hnn
    refine ⟨hout.symm, ms, ?_, houts, ?_⟩
    · rw [← habs]; exact hchain
    · rw [hfin, habs]

open Handover in
/-- **exactly one bestmove, all interleavings**: whatever the search thread wants to send and
    report (`acts`) and however the steps of the two threads interleave (`evs`), standard output is at
    every moment the info lines of the acts that got through — a prefix `done` of `acts` — followed,
    once the go is answered, by exactly ONE `bestmove`, which carries the board of the LAST act that
    got through.  In particular no info line follows the bestmove and a second bestmove never appears. -/
theorem go_output_under_every_schedule {B I : Type} (acts : List (Act B I)) (evs : List Ev) :
    ∃ done rest, acts = done ++ rest ∧
      (((run acts evs).isOpen = true ∧ (run acts evs).out = infos done) ∨
       ((run acts evs).isOpen = false ∧ ∃ b, (run acts evs).out = infos done ++ [.best b] ∧
          (boards done).getLast? = some b)) := by
  have hi := inv_run acts evs
  refine ⟨_, _, hi.split.symm, ?_⟩
  cases ho : (run acts evs).isOpen with
  | true => exact .inl ⟨rfl, (hi.flight ho).1⟩
  | false => exact .inr ⟨rfl, hi.landed ho⟩

open Handover in
/-- nothing of a search reaches the GUI after the bestmove of its go: whatever happens later
    (`more`: the search thread running on, further polls) leaves standard output as it was -/
theorem nothing_follows_the_bestmove {B I : Type} (acts : List (Act B I)) (evs more : List Ev)
    (h : (run acts evs).isOpen = false) :
    (run acts (evs ++ more)).out = (run acts evs).out := by
  rw [run, List.foldl_append]
  exact (foldl_closed more h).2

open Handover in
/-- an info line is never the last word: in an answered go every info line stands before the bestmove -/
theorem info_lines_precede_the_bestmove {B I : Type} (acts : List (Act B I)) (evs : List Ev)
    (pre post : List (Handover.Line B I)) (b : B) (h : (run acts evs).out = pre ++ .best b :: post) :
    post = [] ∧ ∀ l ∈ pre, ∃ i, l = .info i := by
  obtain ⟨done, _, _, ⟨_, hout⟩ | ⟨_, b', hout, _⟩⟩ := go_output_under_every_schedule acts evs
  · have : Handover.Line.best b ∈ infos done := by rw [← hout, h]; simp
    obtain ⟨i, hi⟩ := mem_infos this
    cases hi
  · obtain ⟨hp, hpre⟩ := infos_best_split (hout.symm.trans h)
    exact ⟨hp, hpre ▸ fun l => mem_infos⟩

open Handover in
/-- **the go is answered under every fair schedule**: if the search thread has anything to send
    (it always has: `search_always_hands_over_a_move`) and after some step of the search thread the
    I/O thread polls once and later finds its deadline passed, the go is answered — whatever else
    happens in between, before and after. -/
theorem fair_schedule_answers {B I : Type} (acts : List (Act B I)) (hne : acts ≠ [])
    (e1 e2 e3 e4 : List Ev) :
    (run acts (e1 ++ [.search] ++ e2 ++ [.poll] ++ e3 ++ [.answer] ++ e4)).isOpen = false := by
  simp only [run, List.foldl_append, List.foldl_cons, List.foldl_nil]
  have i1 := inv_foldl e1 (inv_init acts)
  have s2 := started_foldl e2 (search_starts hne i1)
  have h3 := poll_of_started (inv_foldl e2 (inv_foldl [.search] i1)) s2
  exact (foldl_closed e4 (answer_of_holding (holding_foldl e3 h3))).1

open Handover in
/-- **what the GUI sees of one go = a prefix of what the search reported, then its last board**: the
    search thread performing the reports of its run (any game, clock, ordering, outcome) and the I/O
    thread, interleaved in ANY way: standard output is the first `k` info lines of the run, for some
    `k`, followed — once answered — by one bestmove whose board the run has sent. -/
theorem go_stdout_comes_from_the_search {P O : Type} (g : Game P) (ord : Oracle P O) (fuel : Nat) (root : P)
    (s : SS P O) (hs : s.reports = #[]) (evs : List Ev) :
    ∃ shown : List Info, shown <+: infosOf (outState (getBestMove g ord fuel root s)).reports ∧
      (((run (actsOf (outState (getBestMove g ord fuel root s)).reports) evs).isOpen = true ∧
        (run (actsOf (outState (getBestMove g ord fuel root s)).reports) evs).out = shown.map Handover.Line.info) ∨
       ((run (actsOf (outState (getBestMove g ord fuel root s)).reports) evs).isOpen = false ∧
        ∃ b, (run (actsOf (outState (getBestMove g ord fuel root s)).reports) evs).out
                = shown.map Handover.Line.info ++ [Handover.Line.best b] ∧
             Report.sent b ∈ (outState (getBestMove g ord fuel root s)).reports.toList)) := by
  obtain ⟨done, rest, hacts, hcase⟩ := go_output_under_every_schedule
    (actsOf (outState (getBestMove g ord fuel root s)).reports) evs
  obtain ⟨⟨shown, hpre, hshown⟩, hsent⟩ := shown_of_acts (getBestMove_paired g ord fuel root s hs) hacts
  refine ⟨shown, hpre, ?_⟩
  rcases hcase with ⟨ho, hout⟩ | ⟨ho, b, hout, hlast⟩
  · exact .inl ⟨ho, hout.trans hshown⟩
  · exact .inr ⟨ho, b, by rw [hout, hshown], hsent b (List.mem_of_getLast? hlast)⟩

open Handover in
/-- `Realised` — the premise of the end-to-end theorems above — also follows from the two-thread
    machine: if what the dispatcher gets back is the board on the bestmove line of SOME schedule of
    the hand-over machine run on the reports of the search (any clock, any ordering), it is a root
    successor.  So `go_is_answered_with_one_legal_bestmove`, `consecutive_go_answers_are_legal` and
    `position_then_consecutive_go` hold for every interleaving of the two threads. -/
theorem realised_of_handover {O : Type} (h : Hasher) (search : Pos → DrawTable → Nat → Option Pos)
    (ord : Oracle Pos O) (hord : OrdSub ord) (fuel : Nat)
    (s0 : Pos → DrawTable → Nat → SS Pos O) (hs0 : ∀ b t sl, (s0 b t sl).reports = #[])
    (sched : Pos → DrawTable → Nat → List Ev)
    (hsearch : ∀ b t sl x, search b t sl = some x →
      ∃ pre, (run (actsOf (outState (getBestMove (chessGame h) ord fuel b (s0 b t sl))).reports) (sched b t sl)).out
              = pre ++ [Handover.Line.best x]) :
    Realised h search :=
  realised_of_sent h search ord hord fuel s0 hs0 fun b t sl x hs => by
    obtain ⟨pre, hout⟩ := hsearch b t sl x hs
    obtain ⟨shown, _, ⟨_, ho⟩ | ⟨_, b', ho, hmem⟩⟩ :=
      go_stdout_comes_from_the_search (chessGame h) ord fuel b (s0 b t sl) (hs0 b t sl) (sched b t sl)
    -- the last line of the output is `bestmove x`: the go is answered, and with `x`
    · simpa [List.getLast?_map] using congrArg List.getLast? (ho.symm.trans hout)
    · obtain rfl : b' = x := by simpa using List.append_inj_right' (ho.symm.trans hout) rfl
      exact hmem

open HandoverFine in
/-- the two critical sections never overlap — derived from the lock discipline, not assumed -/
theorem critical_sections_exclude_each_other {B I : Type} (acts : List (Handover.Act B I)) (evs : List FEv) :
    ¬ (sHolds (frun acts evs) = true ∧ mHolds (frun acts evs) = true) :=
  (ctl_run acts evs).mutex

open HandoverFine in
/-- **stdout of one go under every schedule of the micro-steps**: the info lines of the acts that got
    through (a prefix of the search thread's programme), then — once answered — exactly one bestmove;
    it carries the last board sent before the I/O thread drained the channel, and whatever got
    through after that is a plain send, never an improvement (so no info line lacks its board) -/
theorem go_output_under_every_schedule_of_micro_steps {B I : Type} (acts : List (Handover.Act B I)) (evs : List FEv) :
    ∃ rest, acts = (frun acts evs).done ++ rest ∧
      ((frun acts evs).mpc ≠ .fin → (frun acts evs).out = Handover.infos (frun acts evs).done) ∧
      ((frun acts evs).mpc = .fin → ∃ b early late,
          (frun acts evs).out = Handover.infos (frun acts evs).done ++ [Handover.Line.best b] ∧
          (frun acts evs).done = early ++ late ∧ (Handover.boards early).getLast? = some b ∧
          ∀ a ∈ late, ∃ m, a = Handover.Act.fallback m) := by
  have hd := dat_run acts evs
  obtain ⟨rest, hacts, _⟩ := hd.pre
  refine ⟨rest, hacts, hd.outOpen, fun hf => ?_⟩
  obtain ⟨b, hout, hbest⟩ := hd.outFin hf
  obtain ⟨early, late, h1, h2, h3⟩ := hd.landed (by simp [drained, hf])
  exact ⟨b, early, late, hout, h1, h2.trans hbest, h3⟩

open HandoverFine in
/-- nothing is printed after the bestmove, whatever the threads still do -/
theorem nothing_follows_the_bestmove_micro {B I : Type} (acts : List (Handover.Act B I)) (evs more : List FEv)
    (h : (frun acts evs).mpc = .fin) : (frun acts (evs ++ more)).out = (frun acts evs).out := by
  rw [frun, List.foldl_append]
  exact out_frozen more (ctl_run acts evs) h

open HandoverFine in
/-- **no deadlock**: in every reachable state in which the I/O thread has noticed the deadline and
    waits for the lock, at most six further steps answer the go (the lock holder never waits for
    anything: the channel is unbounded, printing does not block) -/
theorem no_deadlock_when_answering {B I : Type} (acts : List (Handover.Act B I)) (evs : List FEv)
    (h : (frun acts evs).mpc = .want) :
    ∃ sched : List FEv, sched.length ≤ 6 ∧ (frun acts (evs ++ sched)).mpc = .fin := by
  obtain ⟨sched, hlen, hfin⟩ := answer_is_reachable h
  exact ⟨sched, hlen, by rw [frun, List.foldl_append]; exact hfin⟩

open HandoverFine in
/-- **what the GUI sees of one go, at the granularity of the code**: the search thread performing the
    reports of its run (any game, clock, ordering, outcome) and the I/O thread, interleaved in ANY way
    at the level of lock / send / print / drain / close: standard output is the first `k` info lines of
    the run, then — once answered — one bestmove whose board the run has sent -/
theorem go_stdout_comes_from_the_search_micro {P O : Type} (g : Game P) (ord : Oracle P O) (fuel : Nat) (root : P)
    (s : SS P O) (hs : s.reports = #[]) (evs : List FEv) :
    ∃ shown : List Info, shown <+: infosOf (outState (getBestMove g ord fuel root s)).reports ∧
      ((frun (actsOf (outState (getBestMove g ord fuel root s)).reports) evs).mpc ≠ .fin →
        (frun (actsOf (outState (getBestMove g ord fuel root s)).reports) evs).out = shown.map Handover.Line.info) ∧
      ((frun (actsOf (outState (getBestMove g ord fuel root s)).reports) evs).mpc = .fin →
        ∃ b, (frun (actsOf (outState (getBestMove g ord fuel root s)).reports) evs).out
                = shown.map Handover.Line.info ++ [Handover.Line.best b] ∧
             Report.sent b ∈ (outState (getBestMove g ord fuel root s)).reports.toList) := by
  obtain ⟨rest, hacts, hopen, hfin⟩ := go_output_under_every_schedule_of_micro_steps
    (actsOf (outState (getBestMove g ord fuel root s)).reports) evs
  obtain ⟨⟨shown, hpre, hshown⟩, hsent⟩ := shown_of_acts (getBestMove_paired g ord fuel root s hs) hacts
  refine ⟨shown, hpre, fun h => (hopen h).trans hshown, fun h => ?_⟩
  obtain ⟨b, early, late, hout, hdone, hlast, _⟩ := hfin h
  refine ⟨b, by rw [hout, hshown], hsent b ?_⟩
  rw [hdone, Handover.boards_append]
  exact List.mem_append_left _ (List.mem_of_getLast? hlast)

open HandoverFine in
/-- **the bestmove is the last improvement shown** (what the forced-schedule sessions check on the real
    binary): whenever the last act that got through is an improvement — in every run of the search the
    plain sends come first (the fall-back board before the first evaluation; a second one only when
    nothing was ever accepted), so this is the case as soon as ANY info line has been shown — the output
    ends with that improvement's info line followed by the bestmove carrying its board; under every
    schedule of the micro-steps -/
theorem bestmove_is_the_last_improvement_shown {B I : Type} (acts : List (Handover.Act B I))
    (evs : List FEv) (hfin : (frun acts evs).mpc = .fin)
    (m : B) (i : I) (hlast : (frun acts evs).done.getLast? = some (Handover.Act.accept m i)) :
    ∃ pre, (frun acts evs).out = pre ++ [Handover.Line.info i, Handover.Line.best m] := by
  obtain ⟨_, _, _, hshape⟩ := go_output_under_every_schedule_of_micro_steps acts evs
  obtain ⟨b, early, late, hout, hdone, hb, hlate⟩ := hshape hfin
  -- the last act that got through is an improvement, so nothing plain came after the drain
  have hl : late = [] := by
    cases hl : late.getLast? with
    | none => exact List.getLast?_eq_none_iff.mp hl
    | some x =>
      obtain ⟨m', rfl⟩ := hlate x (List.mem_of_getLast? hl)
      rw [hdone, List.getLast?_append, hl] at hlast
      cases hlast
  obtain ⟨d0, hd0⟩ := List.getLast?_eq_some_iff.mp hlast
  rw [hl, List.append_nil] at hdone
  rw [← hdone, hd0, Handover.boards_append] at hb
  obtain rfl : m = b := by simpa [Handover.boards, Handover.Act.board] using hb
  exact ⟨Handover.infos d0, by rw [hout, hd0, Handover.infos_append]; simp [Handover.infos]⟩

/-- the race of defect D13 at the micro level: the improvement passed the clock check (`want`), the
    I/O thread answers first; the search thread then gets the lock, finds the channel closed and
    ends without printing -/
example : (HandoverFine.frun [Handover.Act.fallback 1, Handover.Act.accept 2 7]
    [.search, .main, .search, .deadline, .main, .main, .main, .main, .search, .search, .search]).out
    = [Handover.Line.best 1] := by decide

/-- non-vacuity / the race of defect D13 as a schedule: the improvement is accepted by the clock
    check, the I/O thread answers first — the info line is NOT printed afterwards; and when the
    improvement gets through first, the bestmove carries it -/
example : (Handover.run [Handover.Act.fallback 1, Handover.Act.accept 2 7] [.search, .poll, .answer, .search, .search]).out
    = [Handover.Line.best 1] := by decide
example : (Handover.run [Handover.Act.fallback 1, Handover.Act.accept 2 7] [.search, .poll, .search, .answer, .search]).out
    = [Handover.Line.info 7, Handover.Line.best 2] := by decide

end Walleye
