/- abstraction map: forget the ring, the caches, the key and the descriptors -/
import Walleye.Spec.Rules
namespace Walleye

def squareToOpt : Square → Option Piece
  | .full p => some p
  | _ => none

/-- spec square (file, rank) ↦ 12x12 (row 9 - rank, col file + 2) -/
def abs (p : Pos) : Spec.Position where
  cells := Array.ofFn (n := 64) fun i => squareToOpt (p.board.get (9 - i.val / 8) (i.val % 8 + 2))
  side := p.toMove
  wks := p.wks
  wqs := p.wqs
  bks := p.bks
  bqs := p.bqs
  ep := p.ep.map fun e => ⟨e.col - 2, 9 - e.row⟩

end Walleye
