/-
  C07, "a larger allowance only extends the sequence of reported improvements".
  Two runs of the same computation, clock expiring at the k-th consultation in the first and later
  (or never) in the second, from states that agree on everything but the expiry, proceed in
  lockstep — same values, same control flow, states still agreeing — until the k-th consultation;
  from then on the first run reports no further improvement (every acceptance at the root is
  guarded by a fresh consultation of the clock, and expiry is sticky) while the second can only
  append.  Packaged compositionally (`Lk`), with rules for pure / bind / if and the primitives, so
  that it is an instance of the one walk of the search functions (`Walk`, Proofs/Frame).
  What is observed of the reports is a parameter `obs` of which two facts are asked (`ObsOK`): the
  info lines (`infosOf`, Proofs/SearchEqs) and the info lines with their boards (`infosOfB`, PrefixPairs.lean).
-/
import Walleye.Proofs.Hoare
import Walleye.Proofs.SearchEqs
namespace Walleye

variable {P O : Type}

def setE (x : Option Nat) (s : SS P O) : SS P O := { s with expiry := x }

def Res.mapSt {σ α : Type} (f : σ → σ) : Res σ α → Res σ α
  | .ok a s => .ok a (f s)
  | .panic s => .panic (f s)
  | .fuel s => .fuel (f s)

def Later (k : Nat) : Option Nat → Prop
  | none => True
  | some k' => k ≤ k'

structure ObsOK {ω : Type} (obs : Array (Report P) → List ω) : Prop where
  sent : ∀ rs p, obs (rs.push (.sent p)) = obs rs
  info : ∀ rs i, obs rs <+: obs (rs.push (.info i))

/-- the two runs agree on everything but the expiry, and the first has not expired yet -/
structure Sim (k : Nat) (e2 : Option Nat) (s1 s2 : SS P O) : Prop where
  e1 : s1.expiry = some k
  e2 : s2.expiry = e2
  le : s1.queries ≤ k
  eq : setE none s1 = setE none s2

inductive Same (k : Nat) (e2 : Option Nat) {α : Type} : Res (SS P O) α → Res (SS P O) α → Prop
  | ok (a : α) {s1 s2 : SS P O} : Sim k e2 s1 s2 → Same k e2 (.ok a s1) (.ok a s2)
  | panic {s1 s2 : SS P O} : Sim k e2 s1 s2 → Same k e2 (.panic s1) (.panic s2)
  | fuel {s1 s2 : SS P O} : Sim k e2 s1 s2 → Same k e2 (.fuel s1) (.fuel s2)

def Out {ω : Type} (obs : Array (Report P) → List ω) (k : Nat) (e2 : Option Nat) {α : Type}
    (r1 r2 : Res (SS P O) α) : Prop :=
  Same k e2 r1 r2 ∨ (r1.st.expired = true ∧ obs r1.st.reports <+: obs r2.st.reports)

/-- the lockstep invariant of a computation `m`, for an observation `obs` of the reports, the first
    run's expiry `k` and the second's `e2` -/
structure Lk {ω : Type} (obs : Array (Report P) → List ω) (k : Nat) (e2 : Option Nat) {α : Type}
    (m : M (SS P O) α) : Prop where
  quiet : ∀ s, s.expired = true → obs (m s).st.reports = obs s.reports ∧ (m s).st.expired = true
  mono : ∀ s, obs s.reports <+: obs (m s).st.reports
  lock : ∀ s1 s2, Sim k e2 s1 s2 → Out obs k e2 (m s1) (m s2)

variable {k : Nat} {e2 : Option Nat} {ω : Type} {obs : Array (Report P) → List ω}

theorem Sim.reports {s1 s2 : SS P O} (h : Sim k e2 s1 s2) : s1.reports = s2.reports :=
  (congrArg SS.reports h.eq :)

theorem Sim.queries {s1 s2 : SS P O} (h : Sim k e2 s1 s2) : s1.queries = s2.queries :=
  (congrArg SS.queries h.eq :)

theorem Sim.ord {s1 s2 : SS P O} (h : Sim k e2 s1 s2) : s1.ord = s2.ord :=
  (congrArg SS.ord h.eq :)

theorem Same.sim {α : Type} {r1 r2 : Res (SS P O) α} (h : Same k e2 r1 r2) : Sim k e2 r1.st r2.st := by
  cases h <;> assumption

theorem Out.prefix {α : Type} {r1 r2 : Res (SS P O) α} (h : Out obs k e2 r1 r2) :
    obs r1.st.reports <+: obs r2.st.reports := by
  rcases h with h | h
  · rw [h.sim.reports]; exact List.prefix_refl _
  · exact h.2

theorem Lk.pure {α : Type} (a : α) : Lk obs k e2 (pure a : M (SS P O) α) :=
  ⟨fun _ hs => ⟨rfl, hs⟩, fun _ => List.prefix_refl _, fun _ _ h => Or.inl (.ok a h)⟩

theorem bind_st_ok {α β : Type} {m : M (SS P O) α} {f : α → M (SS P O) β} {s s' : SS P O} {a : α}
    (h : m s = .ok a s') : ((m >>= f) s) = f a s' := bind_of_ok h

theorem bind_mono {α β : Type} {m : M (SS P O) α} {f : α → M (SS P O) β}
    (hf : ∀ a s, obs s.reports <+: obs (f a s).st.reports) (s : SS P O) :
    obs (m s).st.reports <+: obs ((m >>= f) s).st.reports := by
  cases hm : m s with
  | ok a s' => rw [bind_of_ok hm]; exact hf a s'
  | panic s' => rw [bind_of_panic hm]; exact List.prefix_refl _
  | fuel s' => rw [bind_of_fuel hm]; exact List.prefix_refl _

theorem bind_quiet {α β : Type} {m : M (SS P O) α} {f : α → M (SS P O) β}
    (hf : ∀ a s, s.expired = true → obs (f a s).st.reports = obs s.reports ∧ (f a s).st.expired = true)
    (s : SS P O) (hs : (m s).st.expired = true) :
    obs ((m >>= f) s).st.reports = obs (m s).st.reports ∧ ((m >>= f) s).st.expired = true := by
  cases hm : m s with
  | ok a s' => rw [bind_of_ok hm]; rw [hm] at hs; exact hf a s' hs
  | panic s' => rw [bind_of_panic hm]; rw [hm] at hs; exact ⟨rfl, hs⟩
  | fuel s' => rw [bind_of_fuel hm]; rw [hm] at hs; exact ⟨rfl, hs⟩

theorem Same.bind {α β : Type} {m : M (SS P O) α} {f : α → M (SS P O) β} {s1 s2 : SS P O}
    (h : Same k e2 (m s1) (m s2)) (hf : ∀ a t1 t2, Sim k e2 t1 t2 → Out obs k e2 (f a t1) (f a t2)) :
    Out obs k e2 ((m >>= f) s1) ((m >>= f) s2) := by
  generalize hm1 : m s1 = r1 at h
  generalize hm2 : m s2 = r2 at h
  cases h with
  | ok a hs => rw [bind_of_ok hm1, bind_of_ok hm2]; exact hf a _ _ hs
  | panic hs => rw [bind_of_panic hm1, bind_of_panic hm2]; exact Or.inl (.panic hs)
  | fuel hs => rw [bind_of_fuel hm1, bind_of_fuel hm2]; exact Or.inl (.fuel hs)

theorem Lk.bind {α β : Type} {m : M (SS P O) α} {f : α → M (SS P O) β}
    (h1 : Lk obs k e2 m) (h2 : ∀ a, Lk obs k e2 (f a)) : Lk obs k e2 (m >>= f) := by
  refine ⟨?_, ?_, ?_⟩
  · intro s hs
    obtain ⟨q1, q2⟩ := h1.quiet s hs
    obtain ⟨r1, r2⟩ := bind_quiet (fun a => (h2 a).quiet) s q2
    exact ⟨r1.trans q1, r2⟩
  · intro s
    exact (h1.mono s).trans (bind_mono (fun a => (h2 a).mono) s)
  · intro s1 s2 hsim
    rcases h1.lock s1 s2 hsim with hl | ⟨hx, hp⟩
    · exact hl.bind fun a => (h2 a).lock
    · -- diverged: the continuation adds nothing in the first run and can only append in the second
      obtain ⟨r1, r2⟩ := bind_quiet (fun a => (h2 a).quiet) s1 hx
      exact Or.inr ⟨r2, by rw [r1]; exact hp.trans (bind_mono (fun a => (h2 a).mono) s2)⟩

theorem Lk.ite {α : Type} {c : Prop} [Decidable c] {m1 m2 : M (SS P O) α}
    (h1 : Lk obs k e2 m1) (h2 : Lk obs k e2 m2) : Lk obs k e2 (if c then m1 else m2) := by
  by_cases hc : c
  · rw [if_pos hc]; exact h1
  · rw [if_neg hc]; exact h2

theorem get_bind_lk {β : Type} (f : SS P O → M (SS P O) β) (hf : ∀ s, Lk obs k e2 (f s))
    (hdep : ∀ s s' : SS P O, s.table = s'.table → f s = f s') : Lk obs k e2 (M.get >>= f) := by
  have e : ∀ s, (M.get >>= f) s = f s s := fun _ => rfl
  refine ⟨fun s hs => by rw [e]; exact (hf s).quiet s hs, fun s => by rw [e]; exact (hf s).mono s, ?_⟩
  intro s1 s2 hsim
  rw [e, e]
  rw [← hdep s1 s2 (congrArg SS.table hsim.eq :)]
  exact (hf s1).lock s1 s2 hsim

theorem Res.st_mapSt {σ α : Type} (f : σ → σ) (r : Res σ α) : (r.mapSt f).st = f r.st := by
  cases r <;> rfl

theorem expiry_of_comm {α : Type} {m : M (SS P O) α} (hc : ∀ s x, m (setE x s) = (m s).mapSt (setE x)) (s : SS P O) :
    (m s).st.expiry = s.expiry := by
  have h := congrArg Res.st (hc s s.expiry)
  rw [Res.st_mapSt] at h
  exact (congrArg SS.expiry h :)

theorem sync_of_comm {α : Type} {m : M (SS P O) α} (hc : ∀ s x, m (setE x s) = (m s).mapSt (setE x))
    (hq : ∀ s, (m s).st.queries = s.queries) (s1 s2 : SS P O) (hsim : Sim k e2 s1 s2) :
    Same k e2 (m s1) (m s2) := by
  have c := hc s1 none
  rw [hsim.eq, hc s2 none] at c
  have hs : Sim k e2 (m s1).st (m s2).st := by
    have h := congrArg Res.st c
    rw [Res.st_mapSt, Res.st_mapSt] at h
    exact ⟨(expiry_of_comm hc s1).trans hsim.e1, (expiry_of_comm hc s2).trans hsim.e2,
      by rw [hq]; exact hsim.le, h.symm⟩
  generalize m s1 = r1 at c hs
  generalize m s2 = r2 at c hs
  cases r1 <;> cases r2 <;> simp only [Res.mapSt] at c <;> first
    | (injection c with ea; subst ea; exact .ok _ hs)
    | exact .panic hs
    | exact .fuel hs
    | injection c

/-- the clock-agnostic primitive: it neither reads nor writes the expiry (`hc`), does not consult the
    clock (`hq`), and what it does to the reports is not observed (`ho`) -/
theorem Lk.of_comm {α : Type} {m : M (SS P O) α} (hc : ∀ s x, m (setE x s) = (m s).mapSt (setE x))
    (hq : ∀ s, (m s).st.queries = s.queries) (ho : ∀ s, obs (m s).st.reports = obs s.reports) :
    Lk obs k e2 m := by
  have hexp : ∀ s, (m s).st.expired = s.expired := by
    intro s
    unfold SS.expired
    rw [expiry_of_comm hc s, hq s]
  exact ⟨fun s hs => ⟨ho s, by rw [hexp]; exact hs⟩, fun s => by rw [ho s]; exact List.prefix_refl _,
    fun s1 s2 hsim => Or.inl (sync_of_comm hc hq s1 s2 hsim)⟩

/-- the bookkeeping primitives: `m` leaves the clock and the reports alone -/
theorem Lk.of_bookkeeping {α : Type} {m : M (SS P O) α} (hc : ∀ s x, m (setE x s) = (m s).mapSt (setE x))
    (hk : ∀ s, (m s).st.queries = s.queries ∧ (m s).st.reports = s.reports) : Lk obs k e2 m :=
  Lk.of_comm hc (fun s => (hk s).1) fun s => congrArg obs (hk s).2

/-! `Agn`: what `Lk.of_comm` asks of a clock-agnostic computation, with the info lines for the observation
    (`inf` is its `ho` at `obs := infosOf`, once `SS.infos` is unfolded) -/

structure Agn {α : Type} (m : M (SS P O) α) : Prop where
  comm : ∀ s x, m (setE x s) = (m s).mapSt (setE x)
  q : ∀ s, (m s).st.queries = s.queries
  inf : ∀ s, (m s).st.infos = s.infos

theorem Agn.expiry {α : Type} {m : M (SS P O) α} (h : Agn m) (s : SS P O) : (m s).st.expiry = s.expiry :=
  expiry_of_comm h.comm s

theorem nodeSearched_lk : Lk obs k e2 (nodeSearched : M (SS P O) Unit) :=
  Lk.of_bookkeeping (fun _ _ => rfl) (fun _ => ⟨rfl, rfl⟩)

theorem insertCur_lk (ply : Nat) (mv : Option Mv) : Lk obs k e2 (insertCur ply mv : M (SS P O) Unit) := by
  refine Lk.of_bookkeeping (fun s x => ?_) (fun s => ?_)
  · show (if ply < s.cur.size then _ else _) = Res.mapSt (setE x) (if ply < s.cur.size then _ else _)
    split <;> rfl
  · unfold insertCur; split <;> exact ⟨rfl, rfl⟩

theorem setPV_lk : Lk obs k e2 (setPV : M (SS P O) Unit) :=
  Lk.of_bookkeeping (fun _ _ => rfl) (fun _ => ⟨rfl, rfl⟩)

theorem getPV_lk (ply : Nat) : Lk obs k e2 (getPV ply : M (SS P O) (Option Mv)) := by
  refine Lk.of_bookkeeping (fun s x => ?_) (fun s => ?_)
  · show (if h : ply < s.pv.size then _ else _) = Res.mapSt (setE x) (if h : ply < s.pv.size then _ else _)
    split <;> rfl
  · unfold getPV; split <;> exact ⟨rfl, rfl⟩

theorem getKillers_lk (ply : Nat) : Lk obs k e2 (getKillers ply : M (SS P O) (Array (Option Mv))) := by
  refine Lk.of_bookkeeping (fun s x => ?_) (fun s => ?_)
  · show (if h : ply < s.killers.size then _ else _) =
      Res.mapSt (setE x) (if h : ply < s.killers.size then _ else _)
    split <;> rfl
  · unfold getKillers; split <;> exact ⟨rfl, rfl⟩

theorem insertKiller_lk (ply : Nat) (mv : Option Mv) : Lk obs k e2 (insertKiller ply mv : M (SS P O) Unit) := by
  refine Lk.of_bookkeeping (fun s x => ?_) (fun s => ?_)
  · show (if h : ply < s.killers.size then if (s.killers[ply]).contains mv = true then _ else _ else _) =
      Res.mapSt (setE x) (if h : ply < s.killers.size then if (s.killers[ply]).contains mv = true then _ else _ else _)
    split
    · split <;> rfl
    · rfl
  · unfold insertKiller; split
    · dsimp only; split <;> exact ⟨rfl, rfl⟩
    · exact ⟨rfl, rfl⟩

theorem tableAdd_lk (key : UInt64) : Lk obs k e2 (tableAdd key : M (SS P O) Unit) := by
  refine Lk.of_bookkeeping (fun s x => ?_) (fun s => ?_)
  · unfold tableAdd
    show (match s.table.add key with | some t => _ | none => _) = _
    cases s.table.add key <;> rfl
  · unfold tableAdd; cases s.table.add key <;> exact ⟨rfl, rfl⟩

theorem tableRemove_lk (key : UInt64) : Lk obs k e2 (tableRemove key : M (SS P O) Unit) := by
  refine Lk.of_bookkeeping (fun s x => ?_) (fun s => ?_)
  · unfold tableRemove
    show (match s.table.remove key with | some t => _ | none => _) = _
    cases s.table.remove key <;> rfl
  · unfold tableRemove; cases s.table.remove key <;> exact ⟨rfl, rfl⟩

theorem infosOf_ok : ObsOK (infosOf (P := P)) :=
  ⟨infosOf_push_sent, fun rs i => by rw [infosOf_push_info]; exact List.prefix_append _ _⟩

theorem reportSent_lk (ho : ObsOK obs) (p : P) : Lk obs k e2 (report (.sent p) : M (SS P O) Unit) :=
  Lk.of_comm (fun _ _ => rfl) (fun _ => rfl) (fun s => ho.sent s.reports p)

theorem panic_lk {α : Type} : Lk obs k e2 (M.panic : M (SS P O) α) :=
  Lk.of_bookkeeping (fun _ _ => rfl) (fun _ => ⟨rfl, rfl⟩)

theorem outOfFuel_lk {α : Type} : Lk obs k e2 (M.outOfFuel : M (SS P O) α) :=
  Lk.of_bookkeeping (fun _ _ => rfl) (fun _ => ⟨rfl, rfl⟩)

/-- the reset at the start of an iteration -/
theorem reset_lk :
    Lk obs k e2 (M.modify fun s : SS P O => { s with nodes := 0, cur := Array.replicate arrSize none }) :=
  Lk.of_bookkeeping (fun _ _ => rfl) (fun _ => ⟨rfl, rfl⟩)

theorem Sim.not_expired {s1 s2 : SS P O} (h : Sim k e2 s1 s2) (hl : Later k e2) :
    s1.expired = false ∧ s2.expired = false := by
  have hq := h.queries
  have hle := h.le
  unfold SS.expired
  rw [h.e1, h.e2]
  constructor
  · simp only [decide_eq_false_iff_not]; omega
  · cases e2 with
    | none => rfl
    | some k' => simp only [Later] at hl; simp only [decide_eq_false_iff_not]; omega

theorem Sim.upd {s1 s2 : SS P O} (hsim : Sim k e2 s1 s2) (f : SS P O → SS P O)
    (hx : ∀ s, (f s).expiry = s.expiry) (hc : ∀ s, setE none (f s) = f (setE none s))
    (hq : (f s1).queries ≤ k) : Sim k e2 (f s1) (f s2) :=
  ⟨by rw [hx]; exact hsim.e1, by rw [hx]; exact hsim.e2, hq, by rw [hc, hc, hsim.eq]⟩

theorem order_lk (hl : Later k e2) (ord : Oracle P O) (site : Char) (l : List P) :
    Lk obs k e2 (order ord site l) := by
  refine ⟨fun s hs => ⟨rfl, hs⟩, fun s => List.prefix_refl _, ?_⟩
  intro s1 s2 hsim
  left
  obtain ⟨x1, x2⟩ := hsim.not_expired hl
  have o1 : order ord site l s1 = .ok (ord s1.ord false site l).1 { s1 with ord := (ord s1.ord false site l).2 } := by
    unfold order; rw [x1]
  have o2 : order ord site l s2 = .ok (ord s1.ord false site l).1 { s2 with ord := (ord s1.ord false site l).2 } := by
    unfold order; rw [x2, hsim.ord]
  rw [o1, o2]
  exact .ok _ (hsim.upd (fun s => { s with ord := (ord s1.ord false site l).2 }) (fun _ => rfl) (fun _ => rfl) hsim.le)

/-- only `mono` and `lock`: a computation that may report an improvement (used under a fresh clock test) -/
structure WLk {ω : Type} (obs : Array (Report P) → List ω) (k : Nat) (e2 : Option Nat) {α : Type}
    (m : M (SS P O) α) : Prop where
  mono : ∀ s, obs s.reports <+: obs (m s).st.reports
  lock : ∀ s1 s2, Sim k e2 s1 s2 → Out obs k e2 (m s1) (m s2)

theorem Lk.toW {α : Type} {m : M (SS P O) α} (h : Lk obs k e2 m) : WLk obs k e2 m := ⟨h.mono, h.lock⟩

/-- a consultation of the clock, after which an improvement may be reported only if the answer was
    "in time": once expired, nothing is reported -/
theorem Lk.tick_bind {α : Type} (hl : Later k e2) {f : Bool → M (SS P O) α} (hf : WLk obs k e2 (f false))
    (ht : Lk obs k e2 (f true)) : Lk obs k e2 (tick >>= f) := by
  have e : ∀ s : SS P O, (tick >>= f) s = f s.asked.expired s.asked := fun s => bind_of_ok (tick_def s)
  have hm : ∀ b s, obs s.reports <+: obs (f b s).st.reports := by
    intro b
    cases b
    · exact hf.mono
    · exact ht.mono
  refine ⟨?_, ?_, ?_⟩
  · intro s hs
    have x : s.asked.expired = true := expired_sticky (s := s) (s' := s.asked) rfl (Nat.le_succ _) hs
    rw [e, x]
    exact ht.quiet _ x
  · intro s
    rw [e]
    exact hm _ s.asked
  · intro s1 s2 hsim
    rw [e, e]
    by_cases hlt : s1.queries < k
    · -- both clocks answer "in time"
      have hs : Sim k e2 s1.asked s2.asked := hsim.upd SS.asked (fun _ => rfl) (fun _ => rfl) hlt
      obtain ⟨x1, x2⟩ := hs.not_expired hl
      rw [x1, x2]
      exact hf.lock _ _ hs
    · have x : s1.asked.expired = true :=
        expired_iff.2 ⟨k, hsim.e1, Nat.lt_succ_of_le (Nat.le_of_not_lt hlt)⟩
      rw [x]
      obtain ⟨q1, q2⟩ := ht.quiet _ x
      refine Or.inr ⟨q2, ?_⟩
      rw [q1]
      show obs s1.reports <+: _
      rw [hsim.reports]
      exact hm _ s2.asked

theorem tick_lk (hl : Later k e2) : Lk obs k e2 (tick : M (SS P O) Bool) :=
  Lk.tick_bind (f := Pure.pure) hl (Lk.pure false).toW (Lk.pure true)

theorem WLk.bind_comm {α β : Type} {m : M (SS P O) α} {f : α → M (SS P O) β}
    (hc : ∀ s x, m (setE x s) = (m s).mapSt (setE x)) (hq : ∀ s, (m s).st.queries = s.queries)
    (hm : ∀ s, obs s.reports <+: obs (m s).st.reports) (h2 : ∀ a, WLk obs k e2 (f a)) : WLk obs k e2 (m >>= f) :=
  ⟨fun s => (hm s).trans (bind_mono (fun a => (h2 a).mono) s),
    fun s1 s2 hsim => (sync_of_comm hc hq s1 s2 hsim).bind fun a => (h2 a).lock⟩

theorem accepted_wlk {α : Type} (ho : ObsOK obs) (cd : Nat) (mv : P) (e : Int) (rest : M (SS P O) α)
    (hr : Lk obs k e2 rest) : WLk obs k e2 (M.modify (accepted cd mv e) >>= fun _ => rest) :=
  WLk.bind_comm (fun _ _ => rfl) (fun _ => rfl)
    (fun s => by
      show obs s.reports <+: obs ((s.reports.push (.sent mv)).push _)
      rw [← ho.sent s.reports mv]
      exact ho.info _ _)
    fun _ => hr.toW

end Walleye
