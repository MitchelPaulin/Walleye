/-
  Where the kings stand, one `Board.set` at a time (`KingAt`); hence the king caches stay right after a move that
  does not capture a king (`kingsOK_st1`), so the generator's king-safety test on the moved board is the
  specification's test on `Spec.apply` (`filter_normal`, C01); a promotion changes nothing about it, by
  `SameForCheck` (Proofs/CheckSpec).
-/
import Walleye.Proofs.SuccAbs
import Walleye.Proofs.CheckSpec
namespace Walleye

def KingAt (b : Board) (c : Color) (pt : Point) : Prop :=
  ∀ r k, b.get r k = .full ⟨c, .king⟩ ↔ (⟨r, k⟩ : Point) = pt

def NoKing (b : Board) (c : Color) : Prop := ∀ r k, b.get r k ≠ .full ⟨c, .king⟩

theorem kingsOK_iff (p : Pos) : KingsOK p ↔ ∀ c, KingAt p.board c (kingPt p c) :=
  forall_congr' fun c => ⟨fun h r k => ⟨h.2 r k, fun e => by rw [← e] at h; exact h.1⟩,
    fun h => ⟨(h _ _).2 rfl, fun r k => (h r k).1⟩⟩

theorem KingsOK.of_kingAt {p q : Pos} (hko : KingsOK p) (hwk : q.wk = p.wk) (hbk : q.bk = p.bk)
    (hb : ∀ c, KingAt p.board c (kingPt p c) → KingAt q.board c (kingPt p c)) : KingsOK q :=
  (kingsOK_iff q).2 fun c =>
    (show kingPt q c = kingPt p c by cases c <;> assumption) ▸ hb c ((kingsOK_iff p).1 hko c)

section
variable {b : Board} {c : Color} {pt : Point} {v : Square} {r k : Nat}

theorem KingAt.get (h : KingAt b c pt) : b.get pt.row pt.col = .full ⟨c, .king⟩ := (h _ _).2 rfl

theorem KingAt.ne (h : KingAt b c pt) (hn : b.get r k ≠ .full ⟨c, .king⟩) : ¬ (r = pt.row ∧ k = pt.col) :=
  fun e => hn (e.1 ▸ e.2 ▸ h.get)

theorem KingAt.set_other (h : KingAt b c pt) (hv : v ≠ .full ⟨c, .king⟩) (hn : ¬ (r = pt.row ∧ k = pt.col)) :
    KingAt (b.set r k v) c pt :=
  fun r' k' => ⟨fun hx => (h r' k').1 (Board.get_set_of_ne hv hx), fun e => by
    subst e; rw [Board.get_set_ne _ _ _ _ _ _ hn]; exact h.get⟩

theorem KingAt.remove (h : KingAt b c pt) (hv : v ≠ .full ⟨c, .king⟩) (hk : b.get r k = .full ⟨c, .king⟩) :
    NoKing (b.set r k v) c := by
  intro r' k' hx
  cases ((h r' k').1 (Board.get_set_of_ne hv hx)).trans ((h r k).1 hk).symm
  have hb := Board.lt_of_get (b := b) (r := r) (k := k) (by rw [hk]; nofun)
  rw [Board.get_set_eq _ _ _ _ hb.1 hb.2] at hx
  exact hv hx

theorem NoKing.place (h : NoKing b c) (hb : OnBoard ⟨r, k⟩) :
    KingAt (b.set r k (.full ⟨c, .king⟩)) c ⟨r, k⟩ := by
  intro r' k'
  rw [Board.get_set b r k _ _ _ hb.lt.1 hb.lt.2]
  split
  · next e => exact iff_of_true rfl (by rw [e.1, e.2])
  · next e => exact iff_of_false (h r' k') fun e' => e (by cases e'; exact ⟨rfl, rfl⟩)

end

variable (h : Hasher)

theorem kingsOK_st1 (p : Pos) (hko : KingsOK p) (piece : Piece) (sq mov : Point)
    (hsq : p.board.get sq.row sq.col = .full piece) (hm : OnBoard mov)
    (hnk : ∀ c, p.board.get mov.row mov.col ≠ .full ⟨c, .king⟩) : KingsOK (st1 h piece p sq mov) := by
  rw [kingsOK_iff] at hko ⊢
  intro c
  have hc := hko c
  rw [st1_kingPt, st1_board, movePiece_board_full h p sq mov piece hsq]
  split
  · next e => subst e; exact (hc.remove (by nofun) hsq).place hm
  · next e =>
    have hp : Square.full piece ≠ .full ⟨c, .king⟩ := fun x => e (Square.full.inj x)
    exact (hc.set_other (by nofun) (hc.ne (hsq ▸ hp))).set_other hp (hc.ne (hnk c))

theorem st1_wf (p : Pos) (hr : RingOK p.board) (hi : InnerOK p.board) (hko : KingsOK p) (piece : Piece) (sq mov : Point)
    (hsq : p.board.get sq.row sq.col = .full piece) (hm : OnBoard mov)
    (hnk : ∀ c, p.board.get mov.row mov.col ≠ .full ⟨c, .king⟩) :
    RingOK (st1 h piece p sq mov).board ∧ InnerOK (st1 h piece p sq mov).board ∧ KingsOK (st1 h piece p sq mov) := by
  refine ⟨?_, ?_, kingsOK_st1 h p hko piece sq mov hsq hm hnk⟩
  · rw [st1_board]; exact ringOK_movePiece h p sq mov hr hm
  · rw [st1_board, movePiece_board_full h p sq mov piece hsq]
    exact innerOK_set _ mov _ (innerOK_set _ sq _ hi (by simp)) (by simp)

theorem filter_normal (p : Pos) (hr : RingOK p.board) (hi : InnerOK p.board) (hko : KingsOK p) (o : Spec.Sq) (ho : InB o)
    (pc : Piece) (hpc : p.board.get (toPt o).row (toPt o).col = .full pc) (hcol : pc.color = p.toMove)
    (mov : Point) (hm : OnBoard mov) (hrule : normalRule (abs p) o pc (specOf mov) = true)
    (hnk : ∀ c, p.board.get mov.row mov.col ≠ .full ⟨c, .king⟩)
    (pr : Option Kind) (hpr : ∀ k, pr = some k → pc.kind ≠ .king ∧ k ≠ .king) :
    isCheck (st1 h pc p (toPt o) mov) pc.color =
      Spec.inCheck (Spec.apply (abs p) ⟨o, specOf mov, pr⟩) (abs p).side := by
  have hto := toPt_onBoard o ho
  have hsrc : (abs p).at o = some pc := at_of_get p o ho _ hpc
  obtain ⟨hr1, hi1, hk1⟩ := st1_wf h p hr hi hko pc (toPt o) mov hpc hm hnk
  rw [isCheck_eq_inCheck _ hr1 hi1 hk1 pc.color]
  have hc1 : (abs (st1 h pc p (toPt o) mov)).cells = (((abs p).put o none).put (specOf mov) (some pc)).cells := by
    rw [abs_cells, st1_cells h pc p (toPt o) mov hpc hto hm, specOf_toPt o ho]
  rw [inCheck_congr _ _ hc1]
  rw [inCheck_congr _ _ (apply_cells_of_rule (abs p) ⟨o, specOf mov, pr⟩ pc hsrc hrule)]
  have hside : (abs p).side = pc.color := hcol.symm
  rw [hside]
  cases pr with
  | none => rfl
  | some k =>
    obtain ⟨n1, n2⟩ := hpr k rfl
    have hsz : (((abs p).put o none)).cells.size = 64 := by rw [put_size, abs_size]
    have := sameForCheck_put pc.color ((abs p).put o none) hsz (specOf mov) (specOf_inB mov hm) pc.kind k n1 n2
    have e : (⟨pc.color, pc.kind⟩ : Piece) = pc := by cases pc; rfl
    rw [e] at this
    exact inCheck_same pc.color _ _ this

end Walleye
