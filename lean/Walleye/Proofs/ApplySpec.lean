/-
  `Spec.apply` taken apart (C02).  Side, rights and en passant target of the result do not depend
  on the kind of move; only the squares that change do (`applyCells`; `apply_at_of_ne` and
  `apply_at_cases` are its frame).  `abs_eq_apply` is the form in which every "the successor is
  `Spec.apply` of its move" statement is proved: four observations of the successor.
-/
import Walleye.Proofs.AbsOps
namespace Walleye

theorem specPos_ext (A B : Spec.Position) (h1 : A.cells = B.cells) (h2 : A.side = B.side)
    (h3 : A.wks = B.wks) (h4 : A.wqs = B.wqs) (h5 : A.bks = B.bks) (h6 : A.bqs = B.bqs) (h7 : A.ep = B.ep) :
    A = B := by
  cases A; cases B; simp only at *; simp [*]

theorem isCastle_iff (P : Spec.Position) (m : Spec.Move) :
    Spec.isCastle P m = true ↔ P.at m.src = some ⟨P.side, .king⟩ ∧ m.src = ⟨4, Spec.homeRank P.side⟩ ∧
      m.dst.rank = Spec.homeRank P.side ∧ (m.dst.file = 6 ∨ m.dst.file = 2) := by
  simp only [Spec.isCastle, Bool.and_eq_true, Bool.or_eq_true, beq_iff_eq, and_assoc]

theorem isEnPassant_iff (P : Spec.Position) (m : Spec.Move) :
    Spec.isEnPassant P m = true ↔
      P.at m.src = some ⟨P.side, .pawn⟩ ∧ m.src.file ≠ m.dst.file ∧ P.at m.dst = none := by
  simp only [Spec.isEnPassant, Bool.and_eq_true, beq_iff_eq, bne_iff_ne, ne_eq, Option.isNone_iff_eq_none, and_assoc]

theorem ep_not_castle (P : Spec.Position) (m : Spec.Move) (he : Spec.isEnPassant P m = true) :
    Spec.isCastle P m = false :=
  Bool.eq_false_iff.mpr fun hc => by
    have hK := ((isCastle_iff P m).mp hc).1
    rw [((isEnPassant_iff P m).mp he).1] at hK
    cases hK

def cornerSq : CastlingType → Spec.Sq
  | .wks => ⟨7, 0⟩ | .wqs => ⟨0, 0⟩ | .bks => ⟨7, 7⟩ | .bqs => ⟨0, 7⟩

def Spec.Position.right (P : Spec.Position) : CastlingType → Bool
  | .wks => P.wks | .wqs => P.wqs | .bks => P.bks | .bqs => P.bqs

theorem abs_right_ct (p : Pos) (ct : CastlingType) : (abs p).right ct = p.right ct := by cases ct <;> rfl

/-! The `let`s of `Spec.apply` (Spec/Rules.lean) under names of their own, so that lemmas can speak of them: `landed`
is the piece written to the destination, `touchesSq` its `touches`, `epAfter` its `ep` field, `applyCells` its chain
of `put`s (the `Q`s).  They are copies, tied to `Spec.apply` by `rfl` in `apply_right`, `apply_epTarget` and
`apply_cells`: keep them in step with it.  `AfterMove` lists what a square can hold afterwards: what it held,
nothing, the piece that landed (on `m.dst` only), the castled rook. -/

def landed (c : Color) (pc : Piece) (promo : Option Kind) : Piece :=
  match promo with
  | some k => ⟨c, k⟩
  | none => pc

def touchesSq (m : Spec.Move) (s : Spec.Sq) : Bool := m.src == s || m.dst == s

def epAfter (c : Color) (pc : Piece) (m : Spec.Move) : Option Spec.Sq :=
  if pc.kind == .pawn && Spec.iabs ((m.dst.rank : Int) - m.src.rank) == 2
  then some ⟨m.src.file, ((m.src.rank : Int) + Spec.fwd c).toNat⟩ else none

theorem epAfter_eq_some_iff (c : Color) (pc : Piece) (m : Spec.Move) (e : Spec.Sq) :
    epAfter c pc m = some e ↔ (pc.kind = .pawn ∧ ((m.dst.rank : Int) - m.src.rank).natAbs = 2) ∧
      e = ⟨m.src.file, ((m.src.rank : Int) + Spec.fwd c).toNat⟩ := by
  unfold epAfter
  simp only [Bool.and_eq_true, beq_iff_eq, Spec.iabs, Option.ite_none_right_eq_some, Option.some.injEq,
    eq_comm (b := e)]

theorem epAfter_eq_none {c : Color} {pc : Piece} {m : Spec.Move}
    (h : ¬ (pc.kind = .pawn ∧ ((m.dst.rank : Int) - m.src.rank).natAbs = 2)) : epAfter c pc m = none := by
  unfold epAfter
  simp only [Bool.and_eq_true, beq_iff_eq, Spec.iabs, h, if_false]

def applyCells (P : Spec.Position) (m : Spec.Move) (pc : Piece) : Spec.Position :=
  let Q := (P.put m.src none).put m.dst (some (landed P.side pc m.promo))
  let Q := if Spec.isEnPassant P m then Q.put ⟨m.dst.file, m.src.rank⟩ none else Q
  if Spec.isCastle P m then
    (Q.put ⟨if m.dst.file == 6 then 7 else 0, m.src.rank⟩ none).put ⟨if m.dst.file == 6 then 5 else 3, m.src.rank⟩
      (some ⟨P.side, .rook⟩)
  else Q

def AfterMove (P : Spec.Position) (m : Spec.Move) (pc : Piece) (s : Spec.Sq) (x : Option Piece) : Prop :=
  x = P.at s ∨ x = none ∨ s = m.dst ∧ x = some (landed P.side pc m.promo) ∨ x = some ⟨P.side, .rook⟩

section
variable (P : Spec.Position) (m : Spec.Move) (pc : Piece) (hsrc : P.at m.src = some pc)
include hsrc

theorem apply_side : (Spec.apply P m).side = P.side.opp := by
  unfold Spec.apply; rw [hsrc]

theorem apply_right (ct : CastlingType) :
    (Spec.apply P m).right ct =
      (P.right ct && !(pc == ⟨rightColor ct, .king⟩) && !touchesSq m (cornerSq ct)) := by
  unfold Spec.apply; rw [hsrc]; cases ct <;> rfl

theorem apply_epTarget : (Spec.apply P m).ep = epAfter P.side pc m := by
  unfold Spec.apply; rw [hsrc]; rfl

theorem apply_cells : (Spec.apply P m).cells = (applyCells P m pc).cells := by
  unfold Spec.apply applyCells
  rw [hsrc]
  simp only
  split <;> split <;> rfl

theorem apply_cells_normal (hc : Spec.isCastle P m = false) (he : Spec.isEnPassant P m = false) :
    (Spec.apply P m).cells = ((P.put m.src none).put m.dst (some (landed P.side pc m.promo))).cells := by
  rw [apply_cells P m pc hsrc]; unfold applyCells; simp only [hc, he, Bool.false_eq_true, if_false]

theorem apply_cells_ep (hc : Spec.isCastle P m = false) (he : Spec.isEnPassant P m = true) :
    (Spec.apply P m).cells =
      (((P.put m.src none).put m.dst (some (landed P.side pc m.promo))).put ⟨m.dst.file, m.src.rank⟩ none).cells := by
  rw [apply_cells P m pc hsrc]; unfold applyCells; simp only [hc, he, Bool.false_eq_true, if_false, if_true]

theorem apply_cells_castle (hc : Spec.isCastle P m = true) (he : Spec.isEnPassant P m = false) :
    (Spec.apply P m).cells =
      ((((P.put m.src none).put m.dst (some (landed P.side pc m.promo))).put
          ⟨if m.dst.file == 6 then 7 else 0, m.src.rank⟩ none).put
        ⟨if m.dst.file == 6 then 5 else 3, m.src.rank⟩ (some ⟨P.side, .rook⟩)).cells := by
  rw [apply_cells P m pc hsrc]; unfold applyCells; simp only [hc, he, Bool.false_eq_true, if_false, if_true]

theorem apply_at_of_ne (s : Spec.Sq) (h1 : s ≠ m.src) (h2 : s ≠ m.dst)
    (h3 : Spec.isEnPassant P m = true → s ≠ ⟨m.dst.file, m.src.rank⟩)
    (h4 : Spec.isCastle P m = true → s.rank ≠ m.src.rank) : (Spec.apply P m).at s = P.at s := by
  have hr : ∀ f, Spec.isCastle P m = true → s ≠ ⟨f, m.src.rank⟩ := fun f hc e => h4 hc (e ▸ rfl)
  rw [at_congr _ _ (apply_cells P m pc hsrc)]
  unfold applyCells
  simp only
  split <;> split
  · next hc he => rw [at_put_ne _ _ _ _ (hr _ hc), at_put_ne _ _ _ _ (hr _ hc), at_put_ne _ _ _ _ (h3 he),
      at_put_ne _ _ _ _ h2, at_put_ne _ _ _ _ h1]
  · next hc _ => rw [at_put_ne _ _ _ _ (hr _ hc), at_put_ne _ _ _ _ (hr _ hc), at_put_ne _ _ _ _ h2, at_put_ne _ _ _ _ h1]
  · next he => rw [at_put_ne _ _ _ _ (h3 he), at_put_ne _ _ _ _ h2, at_put_ne _ _ _ _ h1]
  · rw [at_put_ne _ _ _ _ h2, at_put_ne _ _ _ _ h1]

theorem apply_at_cases (s : Spec.Sq) : AfterMove P m pc s ((Spec.apply P m).at s) := by
  -- each `put` of `Spec.apply` keeps the four alternatives
  have step : ∀ (Q : Spec.Position) t v,
      (v = none ∨ t = m.dst ∧ v = some (landed P.side pc m.promo) ∨ v = some ⟨P.side, .rook⟩) →
      AfterMove P m pc s (Q.at s) → AfterMove P m pc s ((Q.put t v).at s) := by
    intro Q t v hv hQ
    rcases at_put_cases Q t s v with e | ⟨rfl, e⟩ <;> rw [e]
    · exact hQ
    · exact .inr hv
  have h0 := step _ m.dst _ (.inr (.inl ⟨rfl, rfl⟩)) (step P m.src none (.inl rfl) (.inl rfl))
  rw [at_congr _ _ (apply_cells P m pc hsrc)]
  unfold applyCells
  simp only
  split <;> split
  · exact step _ _ _ (.inr (.inr rfl)) (step _ _ _ (.inl rfl) (step _ _ _ (.inl rfl) h0))
  · exact step _ _ _ (.inr (.inr rfl)) (step _ _ _ (.inl rfl) h0)
  · exact step _ _ _ (.inl rfl) h0
  · exact h0

end

theorem abs_eq_apply (p q : Pos) (m : Spec.Move) (pc : Piece) (hsrc : (abs p).at m.src = some pc)
    (hcells : absCells q.board = (Spec.apply (abs p) m).cells) (hside : q.toMove = p.toMove.opp)
    (hright : ∀ ct, q.right ct = (p.right ct && !(pc == ⟨rightColor ct, .king⟩) && !touchesSq m (cornerSq ct)))
    (hep : q.ep.map specOf = epAfter p.toMove pc m) : abs q = Spec.apply (abs p) m := by
  have hr : ∀ ct, (abs q).right ct = (Spec.apply (abs p) m).right ct := fun ct => by
    rw [apply_right _ m pc hsrc, abs_right_ct, abs_right_ct]; exact hright ct
  exact specPos_ext _ _ hcells (hside.trans (apply_side _ m pc hsrc).symm) (hr .wks) (hr .wqs) (hr .bks) (hr .bqs)
    (hep.trans (apply_epTarget _ m pc hsrc).symm)

end Walleye
