/-
  `Spec.Position.put` / `.at` field by field, and how the abstraction map `abs` (mailbox position ↦
  8x8 specification position) commutes with `Board.set`.  Used by C02 (successor = Spec.apply) and C01.
-/
import Walleye.Proofs.Coords
namespace Walleye

theorem put_side (Q : Spec.Position) (s : Spec.Sq) (v : Option Piece) : (Q.put s v).side = Q.side := by
  unfold Spec.Position.put; split <;> rfl
theorem put_wks (Q : Spec.Position) (s : Spec.Sq) (v : Option Piece) : (Q.put s v).wks = Q.wks := by
  unfold Spec.Position.put; split <;> rfl
theorem put_wqs (Q : Spec.Position) (s : Spec.Sq) (v : Option Piece) : (Q.put s v).wqs = Q.wqs := by
  unfold Spec.Position.put; split <;> rfl
theorem put_bks (Q : Spec.Position) (s : Spec.Sq) (v : Option Piece) : (Q.put s v).bks = Q.bks := by
  unfold Spec.Position.put; split <;> rfl
theorem put_bqs (Q : Spec.Position) (s : Spec.Sq) (v : Option Piece) : (Q.put s v).bqs = Q.bqs := by
  unfold Spec.Position.put; split <;> rfl
theorem put_ep (Q : Spec.Position) (s : Spec.Sq) (v : Option Piece) : (Q.put s v).ep = Q.ep := by
  unfold Spec.Position.put; split <;> rfl

theorem put_cells (Q : Spec.Position) (s : Spec.Sq) (v : Option Piece) (hs : InB s) :
    (Q.put s v).cells = Q.cells.setIfInBounds (sqIdx s) v := by
  unfold InB at hs
  unfold Spec.Position.put sqIdx
  rw [if_pos hs]

theorem put_size (X : Spec.Position) (t : Spec.Sq) (v : Option Piece) : (X.put t v).cells.size = X.cells.size := by
  unfold Spec.Position.put; split <;> simp

theorem at_congr (P Q : Spec.Position) (h : P.cells = Q.cells) (s : Spec.Sq) : P.at s = Q.at s := by
  unfold Spec.Position.at; rw [h]

theorem at_put_ne (Q : Spec.Position) (t s : Spec.Sq) (v : Option Piece) (h : s ≠ t) : (Q.put t v).at s = Q.at s := by
  unfold Spec.Position.put
  split
  · unfold Spec.Position.at
    split
    · have : t.rank * 8 + t.file ≠ s.rank * 8 + s.file := fun hh =>
        h (by cases s; cases t; simp only at *; congr 1 <;> omega)
      rw [Array.getD_eq_getD_getElem?, Array.getD_eq_getD_getElem?, Array.getElem?_setIfInBounds_ne this]
    · rfl
  · rfl

theorem at_put_self (Q : Spec.Position) (t : Spec.Sq) (v : Option Piece) (ht : InB t) (hlt : sqIdx t < Q.cells.size) :
    (Q.put t v).at t = v := by
  unfold InB at ht
  unfold sqIdx at hlt
  unfold Spec.Position.put Spec.Position.at
  simp only [ht, and_self, if_true]
  rw [Array.getD_eq_getD_getElem?, Array.getElem?_setIfInBounds_self_of_lt hlt]
  rfl

/-- holds whatever the size of the cell array, unlike `at_put` -/
theorem at_put_cases (Q : Spec.Position) (t s : Spec.Sq) (v : Option Piece) :
    (Q.put t v).at s = Q.at s ∨ s = t ∧ (Q.put t v).at s = v := by
  by_cases e : s = t
  · subst e
    by_cases hs : InB s
    · by_cases hlt : sqIdx s < Q.cells.size
      · exact .inr ⟨rfl, at_put_self Q s v hs hlt⟩
      · left
        unfold sqIdx at hlt
        unfold Spec.Position.put Spec.Position.at
        simp only [show s.file < 8 ∧ s.rank < 8 from hs, and_self, if_true]
        rw [Array.getD_eq_getD_getElem?, Array.getD_eq_getD_getElem?, Array.getElem?_eq_none (by simpa using hlt),
          Array.getElem?_eq_none (by simpa using hlt)]
    · left; unfold Spec.Position.put; rw [if_neg (show ¬ (s.file < 8 ∧ s.rank < 8) from hs)]
  · exact .inl (at_put_ne Q t s v e)

theorem at_put (X : Spec.Position) (hsz : X.cells.size = 64) (t s : Spec.Sq) (v : Option Piece) (ht : InB t) :
    (X.put t v).at s = if s = t then v else X.at s := by
  split
  · next e => exact e ▸ at_put_self X t v ht (by unfold InB at ht; unfold sqIdx; omega)
  · next e => exact at_put_ne X t s v e

def absCells (b : Board) : Array (Option Piece) :=
  Array.ofFn (n := 64) fun i => squareToOpt (b.get (9 - i.val / 8) (i.val % 8 + 2))

theorem abs_cells (p : Pos) : (abs p).cells = absCells p.board := rfl
theorem abs_side (p : Pos) : (abs p).side = p.toMove := rfl
theorem abs_wks (p : Pos) : (abs p).wks = p.wks := rfl
theorem abs_wqs (p : Pos) : (abs p).wqs = p.wqs := rfl
theorem abs_bks (p : Pos) : (abs p).bks = p.bks := rfl
theorem abs_bqs (p : Pos) : (abs p).bqs = p.bqs := rfl
theorem abs_ep (p : Pos) : (abs p).ep = p.ep.map specOf := rfl
theorem abs_ep_some {p : Pos} {t : Point} (h : p.ep = some t) : (abs p).ep = some (specOf t) := by rw [abs_ep, h]; rfl

theorem absCells_size (b : Board) : (absCells b).size = 64 := by simp [absCells]

theorem abs_size (p : Pos) : (abs p).cells.size = 64 := absCells_size _

theorem absCells_set (b : Board) (pt : Point) (v : Square) (hpt : OnBoard pt) :
    absCells (b.set pt.row pt.col v) = (absCells b).setIfInBounds (sqIdx (specOf pt)) (squareToOpt v) := by
  unfold OnBoard at hpt
  apply Array.ext
  · rw [Array.size_setIfInBounds, absCells_size, absCells_size]
  · intro i h1 _
    have hi : i < 64 := absCells_size _ ▸ h1
    -- cell `i` is the written square iff `i` is its index
    have key : (pt.row = 9 - i / 8 ∧ pt.col = i % 8 + 2) ↔ (9 - pt.row) * 8 + (pt.col - 2) = i := by omega
    rw [Array.getElem_setIfInBounds (by rwa [absCells_size])]
    simp only [absCells, Array.getElem_ofFn, sqIdx, specOf]
    rw [Board.get_set b _ _ _ _ _ (by omega) (by omega)]
    by_cases he : (9 - pt.row) * 8 + (pt.col - 2) = i
    · rw [if_pos he, if_pos (key.mpr he)]
    · rw [if_neg he, if_neg (mt key.mp he)]

theorem put_absCells (Q : Spec.Position) (b : Board) (hQ : Q.cells = absCells b) (pt : Point) (v : Square)
    (hpt : OnBoard pt) :
    (Q.put (specOf pt) (squareToOpt v)).cells = absCells (b.set pt.row pt.col v) := by
  rw [put_cells Q _ _ (specOf_inB pt hpt), hQ, absCells_set b pt v hpt]

/-- the two writes of `move_piece` -/
theorem moved_absCells (Q : Spec.Position) (b : Board) (hQ : Q.cells = absCells b) (s e : Point) (pc : Piece)
    (hs : OnBoard s) (he : OnBoard e) :
    ((Q.put (specOf s) none).put (specOf e) (some pc)).cells =
      absCells ((b.set s.row s.col .empty).set e.row e.col (.full pc)) :=
  put_absCells _ _ (put_absCells Q b hQ s .empty hs) e (.full pc) he

end Walleye
