/-
  The fine-grained hand-over machine (Model/HandoverFine.lean): mutual exclusion of the two critical
  sections is PROVED from the lock discipline, the output has the shape info* [bestmove] under every
  schedule of the micro-steps, nothing follows the bestmove, and no reachable state is a deadlock.
  The invariants are proved over the thirteen state-changing transitions (`Step`); the code of the
  step functions is opened in `fstep_cases`, and where a particular enabled step is computed (no deadlock).
-/
import Walleye.Model.HandoverFine
import Walleye.Proofs.Handover
namespace Walleye.HandoverFine

open Handover (Act Line infos boards infos_append boards_append Flight)

variable {B I : Type}

/-- the micro-steps of the table in Model/HandoverFine.lean that change the state; `lost` is the answer
    without a board, which `Ctl` rules out -/
inductive Step : FSt B I → FSt B I → Prop
  | die {s : FSt B I} : (s.spc = .idle ∨ ∃ m i, s.spc = .hold1 m i) → Step s { s with spc := .dead }
  | plain {s : FSt B I} (m t) : s.spc = .idle → s.todo = .fallback m :: t → s.isOpen = true →
      Step s { s with todo := t, chan := s.chan ++ [m], done := s.done ++ [.fallback m], sent := s.sent ++ [m] }
  | ask {s : FSt B I} (m i t) : s.spc = .idle → s.todo = .accept m i :: t → Step s { s with todo := t, spc := .want m i }
  | slock {s : FSt B I} (m i) : s.spc = .want m i → mHolds s = false → Step s { s with spc := .hold1 m i }
  | send {s : FSt B I} (m i) : s.spc = .hold1 m i → s.isOpen = true →
      Step s { s with chan := s.chan ++ [m], sent := s.sent ++ [m], spc := .hold2 m i }
  | print {s : FSt B I} (m i) : s.spc = .hold2 m i →
      Step s { s with out := s.out ++ [.info i], done := s.done ++ [.accept m i], spc := .idle }
  | recv {s : FSt B I} (b r) : s.mpc = .poll → s.chan = b :: r → Step s { s with chan := r, best := some b }
  | notice {s : FSt B I} : s.mpc = .poll → s.best.isSome = true → Step s { s with mpc := .want }
  | mlock {s : FSt B I} : s.mpc = .want → sHolds s = false → Step s { s with mpc := .hold }
  | drain {s : FSt B I} : s.mpc = .hold →
      Step s { s with best := (match s.chan.getLast? with | some x => some x | none => s.best), chan := [],
                      atDrain := s.sent, mpc := .drained }
  | close {s : FSt B I} : s.mpc = .drained → Step s { s with isOpen := false, mpc := .closed }
  | answer {s : FSt B I} (b) : s.mpc = .closed → s.best = some b → Step s { s with out := s.out ++ [.best b], mpc := .fin }
  | lost {s : FSt B I} : s.mpc = .closed → s.best = none → Step s { s with mpc := .fin }

theorem fstep_cases (s : FSt B I) (e : FEv) : fstep s e = s ∨ Step s (fstep s e) := by
  cases e with
  | search =>
    simp only [fstep, searchStep]
    split
    · exact .inl rfl
    · split
      · exact .inr (.die (.inl ‹_›))
      · split
        · exact .inr (.plain _ _ ‹_› ‹_› ‹_›)
        · exact .inr (.die (.inl ‹_›))
      · exact .inr (.ask _ _ _ ‹_› ‹_›)
    · split
      · exact .inl rfl
      · exact .inr (.slock _ _ ‹_› (Bool.eq_false_iff.mpr ‹_›))
    · split
      · exact .inr (.send _ _ ‹_› ‹_›)
      · exact .inr (.die (.inr ⟨_, _, ‹_›⟩))
    · exact .inr (.print _ _ ‹_›)
  | main =>
    simp only [fstep, mainStep]
    split
    · split
      · exact .inl rfl
      · exact .inr (.recv _ _ ‹_› ‹_›)
    · split
      · exact .inl rfl
      · exact .inr (.mlock ‹_› (Bool.eq_false_iff.mpr ‹_›))
    · exact .inr (.drain ‹_›)
    · exact .inr (.close ‹_›)
    · split
      · exact .inr (.answer _ ‹_› ‹_›)
      · exact .inr (.lost ‹_› ‹_›)
    · exact .inl rfl
  | deadline =>
    simp only [fstep, deadlineStep]
    split
    · split
      · exact .inr (.notice ‹_› ‹_›)
      · exact .inl rfl
    · exact .inl rfl

theorem keeps_of_step {P : FSt B I → Prop} (h : ∀ {s s'}, Step s s' → P s → P s') (evs : List FEv) {s : FSt B I} :
    P s → P (evs.foldl fstep s) :=
  foldl_keeps_of_cases fstep_cases h evs

/-- the invariant on control alone (the two program counters, the lock, whether the channel is open and a board
    held); it is kept on its own, and `Dat` is kept given it -/
structure Ctl (s : FSt B I) : Prop where
  mutex : ¬ (sHolds s = true ∧ mHolds s = true)
  closedIff : s.isOpen = false ↔ (s.mpc = .closed ∨ s.mpc = .fin)
  hold2open : ∀ m i, s.spc = .hold2 m i → s.isOpen = true
  holdsBoard : s.mpc ≠ .poll → s.best.isSome = true

/-- between its send and its print the search thread has the lock and the channel is open: the I/O
    thread has got no further than waiting for the lock -/
theorem Ctl.hold2_early {s : FSt B I} (hc : Ctl s) {m : B} {i : I} (hs : s.spc = .hold2 m i) :
    s.mpc = .poll ∨ s.mpc = .want := by
  have hmx : ¬ mHolds s = true := fun hm => hc.mutex ⟨by simp [sHolds, hs], hm⟩
  have hop : ¬ (s.mpc = .closed ∨ s.mpc = .fin) := fun hm => absurd (hc.closedIff.mpr hm) (by simp [hc.hold2open m i hs])
  cases hm : s.mpc <;> simp [mHolds, hm] at hmx hop ⊢

theorem ctl_init (acts : List (Act B I)) : Ctl (finit acts) :=
  ⟨by simp [finit, sHolds], by simp [finit], fun _ _ h => (nomatch h), fun h => absurd rfl h⟩

theorem ctl_step {s s' : FSt B I} (st : Step s s') (h : Ctl s) : Ctl s' := by
  cases st with
  | die | ask | print => exact ⟨by simp [sHolds], h.closedIff, fun _ _ hh => (nomatch hh), h.holdsBoard⟩
  | plain => exact ⟨h.mutex, h.closedIff, h.hold2open, h.holdsBoard⟩
  | slock m i _ hm => exact ⟨fun hc => (by cases hm.symm.trans hc.2), h.closedIff, fun _ _ hh => (nomatch hh), h.holdsBoard⟩
  | send m i hs ho => exact ⟨fun hc => h.mutex ⟨by simp [sHolds, hs], hc.2⟩, h.closedIff, fun _ _ _ => ho, h.holdsBoard⟩
  | recv => exact ⟨h.mutex, h.closedIff, h.hold2open, fun _ => rfl⟩
  | notice hm hb => exact ⟨by simp [mHolds], by simpa [hm] using h.closedIff, h.hold2open, fun _ => hb⟩
  | mlock hm hf =>
    exact ⟨fun hc => (by cases hf.symm.trans hc.1), by simpa [hm] using h.closedIff, h.hold2open,
      fun _ => h.holdsBoard (by simp [hm])⟩
  | drain hm =>
    have hb := h.holdsBoard (by simp [hm])
    refine ⟨by simpa [sHolds, mHolds, hm] using h.mutex, by simpa [hm] using h.closedIff, h.hold2open, fun _ => ?_⟩
    show (match s.chan.getLast? with | some x => some x | none => s.best).isSome = true
    cases s.chan.getLast? <;> simp [hb]
  | close hm =>
    exact ⟨by simpa [sHolds, mHolds, hm] using h.mutex, by simp, fun m i hs => absurd (h.hold2_early hs) (by simp [hm]),
      fun _ => h.holdsBoard (by simp [hm])⟩
  | answer b hm hb =>
    exact ⟨by simp [mHolds], by simp [h.closedIff.mpr (.inl hm)], h.hold2open, fun _ => by simp [hb]⟩
  | lost hm hb => exact absurd (h.holdsBoard (by simp [hm])) (by simp [hb])

theorem ctl_run (acts : List (Act B I)) (evs : List FEv) : Ctl (frun acts evs) :=
  keeps_of_step ctl_step evs (ctl_init acts)

def pendingAccept (s : FSt B I) : List (Act B I) :=
  match s.spc with
  | .want m i => [.accept m i]
  | .hold1 m i => [.accept m i]
  | .hold2 m i => [.accept m i]
  | _ => []

/-- the board in flight of an improvement whose info line is still to be printed -/
def pendingBoard (s : FSt B I) : List B :=
  match s.spc with
  | .hold2 m _ => [m]
  | _ => []

def drained (s : FSt B I) : Bool :=
  match s.mpc with
  | .drained => true
  | .closed => true
  | .fin => true
  | _ => false

/-- the invariant on data, `Handover.Inv` at this granularity: how `acts`, what got through, the channel and the
    output stand to each other before and after the drain -/
structure Dat (acts : List (Act B I)) (s : FSt B I) : Prop where
  pre : ∃ rest, acts = s.done ++ rest ∧ (s.spc ≠ .dead → rest = pendingAccept s ++ s.todo)
  outOpen : s.mpc ≠ .fin → s.out = infos s.done
  outFin : s.mpc = .fin → ∃ b, s.out = infos s.done ++ [.best b] ∧ s.best = some b
  flight : drained s = false → Flight (boards s.done ++ pendingBoard s) s.chan s.best
  /-- after the drain: the I/O thread holds the last board sent before it; what got through since is plain sends -/
  landed : drained s = true →
    ∃ early late, s.done = early ++ late ∧ (boards early).getLast? = s.best ∧ ∀ a ∈ late, ∃ m, a = Act.fallback m

theorem dat_init (acts : List (Act B I)) : Dat acts (finit acts) :=
  ⟨⟨acts, rfl, fun _ => rfl⟩, fun _ => rfl, fun h => (nomatch h), fun _ => .init, fun h => (nomatch h)⟩

theorem dat_step {acts : List (Act B I)} {s s' : FSt B I} (st : Step s s') (hc : Ctl s) (h : Dat acts s) : Dat acts s' := by
  obtain ⟨⟨rest, hacts, hrest⟩, ho, hf, hfl, hld⟩ := h
  cases st with
  | die hg =>
    exact ⟨⟨rest, hacts, fun hn => absurd rfl hn⟩, ho, hf,
      fun hd => (by rcases hg with hs | ⟨m, i, hs⟩ <;> simpa [pendingBoard, hs] using hfl hd), hld⟩
  | plain m t hs ht =>
    have hr := hrest (by simp [hs])
    have hp : pendingBoard s = [] := by simp [pendingBoard, hs]
    refine ⟨⟨t, by simp [hacts, hr, pendingAccept, hs, ht], fun _ => (by simp [pendingAccept, hs])⟩,
      fun hm => (by simp [infos_append, infos, ho hm]), fun hm => ?_, fun hd => ?_, fun hd => ?_⟩
    · obtain ⟨b, h1, h2⟩ := hf hm
      exact ⟨b, by simp [infos_append, infos, h1], h2⟩
    · simpa [hp, pendingBoard, hs, boards, Act.board] using (hfl hd).send m
    · obtain ⟨early, late, h1, h2, h3⟩ := hld hd
      exact ⟨early, late ++ [.fallback m], by simp [h1], h2, by simpa [or_imp, forall_and] using h3⟩
  | ask m i t hs ht =>
    have hr := hrest (by simp [hs])
    exact ⟨⟨rest, hacts, fun _ => (by simpa [pendingAccept, hs, ht] using hr)⟩, ho, hf,
      fun hd => (by simpa [pendingBoard, hs] using hfl hd), hld⟩
  | slock m i hs =>
    exact ⟨⟨rest, hacts, fun _ => (by simpa [pendingAccept, hs] using hrest (by simp [hs]))⟩, ho, hf,
      fun hd => (by simpa [pendingBoard, hs] using hfl hd), hld⟩
  | send m i hs =>
    exact ⟨⟨rest, hacts, fun _ => (by simpa [pendingAccept, hs] using hrest (by simp [hs]))⟩, ho, hf,
      fun hd => (by simpa [pendingBoard, hs] using (hfl hd).send m), hld⟩
  | print m i hs =>
    -- the lock is held by the search thread: the I/O thread has neither drained nor answered
    have hnd : drained s = false := by rcases hc.hold2_early hs with hm | hm <;> simp [drained, hm]
    exact ⟨⟨s.todo, by simp [hacts, hrest (by simp [hs]), pendingAccept, hs], fun _ => (by simp [pendingAccept])⟩,
      fun hm => (by simp [infos_append, infos, ho hm]), fun (hm : s.mpc = .fin) => (by simp [drained, hm] at hnd),
      fun hd => (by simpa [pendingBoard, hs, boards, Act.board] using hfl hd),
      fun hd => (by cases hnd.symm.trans hd)⟩
  | recv b r hm hcn =>
    exact ⟨⟨rest, hacts, hrest⟩, ho, fun h => (by simp [hm] at h), fun hd => (hcn ▸ hfl hd).recv,
      fun hd => (by simp [drained, hm] at hd)⟩
  | notice hm | mlock hm =>
    exact ⟨⟨rest, hacts, hrest⟩, fun _ => ho (by simp [hm]), fun h => (nomatch h),
      fun _ => hfl (by simp [drained, hm]), fun hd => (by simp [drained] at hd)⟩
  | drain hm =>
    refine ⟨⟨rest, hacts, hrest⟩, fun _ => ho (by simp [hm]), fun h => (nomatch h),
      fun hd => (by simp [drained] at hd), fun _ => ⟨s.done, [], by simp, ?_, fun _ ha => (nomatch ha)⟩⟩
    -- the board kept is the last one in flight, or else the last one taken
    have hfl := hfl (by simp [drained, hm])
    have hp : pendingBoard s = [] := by
      unfold pendingBoard
      split
      · exact absurd (hc.hold2_early ‹_›) (by simp [hm])
      · rfl
    rw [hp, List.append_nil] at hfl
    show (boards s.done).getLast? = match s.chan.getLast? with | some x => some x | none => s.best
    rw [hfl.last]
    cases s.chan.getLast? <;> rfl
  | close hm =>
    exact ⟨⟨rest, hacts, hrest⟩, fun _ => ho (by simp [hm]), fun h => (nomatch h),
      fun hd => (by simp [drained] at hd), fun _ => hld (by simp [drained, hm])⟩
  | answer b hm hb =>
    exact ⟨⟨rest, hacts, hrest⟩, fun hn => absurd rfl hn, fun _ => ⟨b, by simp [ho (by simp [hm])], hb⟩,
      fun hd => (by simp [drained] at hd), fun _ => hld (by simp [drained, hm])⟩
  | lost hm hb => exact absurd (hc.holdsBoard (by simp [hm])) (by simp [hb])

theorem inv_foldl {acts : List (Act B I)} (evs : List FEv) {s : FSt B I} :
    Ctl s ∧ Dat acts s → Ctl (evs.foldl fstep s) ∧ Dat acts (evs.foldl fstep s) :=
  keeps_of_step (P := fun s => Ctl s ∧ Dat acts s) (fun st h => ⟨ctl_step st h.1, dat_step st h.1 h.2⟩) evs

theorem dat_run (acts : List (Act B I)) (evs : List FEv) : Dat acts (frun acts evs) :=
  (inv_foldl evs ⟨ctl_init acts, dat_init acts⟩).2

theorem out_frozen (evs : List FEv) {s : FSt B I} (hc : Ctl s) (h : s.mpc = .fin) : (evs.foldl fstep s).out = s.out := by
  refine (keeps_of_step (P := fun t => Ctl t ∧ t.mpc = .fin ∧ t.out = s.out) ?_ evs ⟨hc, h, rfl⟩).2.2
  intro t t' st ⟨hct, hm, hout⟩
  refine ⟨ctl_step st hct, ?_⟩
  cases st with
  | die | plain | ask | slock | send => exact ⟨hm, hout⟩
  | print m i hs => exact absurd (hct.hold2_early hs) (by simp [hm])
  | recv _ _ hm' | notice hm' | mlock hm' | drain hm' | close hm' | answer _ hm' | lost hm' => cases hm.symm.trans hm'

theorem search_acquires (s : FSt B I) (m : B) (i : I) (h : s.spc = .want m i) (hf : mHolds s = false) :
    (searchStep s).spc = .hold1 m i := by
  unfold searchStep; rw [h]; simp [hf]

theorem waiting_not_holding {s : FSt B I} {m : B} {i : I} (h : s.spc = .want m i) : sHolds s = false := by
  rw [sHolds, h]

/-- never are both threads waiting for each other: if the I/O thread is blocked the search thread
    holds the lock and can move, and vice versa -/
theorem never_both_blocked (s : FSt B I) (hc : Ctl s) :
    ¬ ((s.mpc = .want ∧ sHolds s = true) ∧ (∃ m i, s.spc = .want m i) ∧ mHolds s = true) := by
  rintro ⟨⟨_, h1⟩, ⟨m, i, h2⟩, _⟩
  cases (waiting_not_holding h2).symm.trans h1

/-- a thread holding the lock needs no one else to release it: at most two steps of the search thread -/
theorem search_releases {s : FSt B I} (h : s.mpc = .want) :
    ∃ pre : List FEv, pre.length ≤ 2 ∧ (pre.foldl fstep s).mpc = .want ∧ sHolds (pre.foldl fstep s) = false := by
  cases hs : s.spc with
  | hold1 m i =>
    cases ho : s.isOpen with
    | true => exact ⟨[.search, .search], by simp, by simp [fstep, searchStep, hs, ho, h], by simp [fstep, searchStep, hs, ho, sHolds]⟩
    | false => exact ⟨[.search], by simp, by simp [fstep, searchStep, hs, ho, h], by simp [fstep, searchStep, hs, ho, sHolds]⟩
  | hold2 m i => exact ⟨[.search], by simp, by simp [fstep, searchStep, hs, h], by simp [fstep, searchStep, hs, sHolds]⟩
  | _ => exact ⟨[], by simp, h, by simp [sHolds, hs]⟩

theorem main_finishes {s : FSt B I} (h : s.mpc = .want) (hf : sHolds s = false) :
    ([.main, .main, .main, .main].foldl fstep s).mpc = .fin := by
  simp only [List.foldl_cons, List.foldl_nil, fstep]
  simp only [mainStep, h, hf, Bool.false_eq_true, if_false]
  split <;> rfl

/-- **no deadlock**: from every state in which the I/O thread waits for the lock there is a schedule of
    at most six steps (the search thread leaving its critical section, then the I/O thread) after which
    the go is answered -/
theorem answer_is_reachable {s : FSt B I} (h : s.mpc = .want) :
    ∃ sched : List FEv, sched.length ≤ 6 ∧ (sched.foldl fstep s).mpc = .fin := by
  obtain ⟨pre, hlen, hw, hfr⟩ := search_releases h
  exact ⟨pre ++ [.main, .main, .main, .main], by simp; omega, by rw [List.foldl_append]; exact main_finishes hw hfr⟩

end Walleye.HandoverFine
