/-
  C02: the en passant successor is `Spec.apply` of its move.  The geometry of the capture is said
  once, in `EpGeo.spec`.
-/
import Walleye.Proofs.SuccAbs
namespace Walleye

variable (h : Hasher)

theorem ite_left_right_eq_some (l r dm mov : Point) :
    (if l = dm then some l else if r = dm then some r else none) = some mov ↔ dm = mov ∧ (l = mov ∨ r = mov) := by
  by_cases h1 : l = dm
  · subst h1; simp; exact Or.inl
  · by_cases h2 : r = dm
    · subst h2; simp [h1]; exact Or.inr
    · simp only [if_neg h1, if_neg h2, reduceCtorEq, false_iff]
      rintro ⟨rfl, e | e⟩
      · exact h1 e
      · exact h2 e

/-- where the capturing pawn (on `o`, its fifth rank) stands relative to the en passant target `mov` -/
def EpGeo (c : Color) (o : Spec.Sq) (mov : Point) : Prop :=
  match c with
  | .white => (toPt o).row = 5 ∧ mov.row = (toPt o).row - 1 ∧ (mov.col + 1 = (toPt o).col ∨ mov.col = (toPt o).col + 1)
  | .black => (toPt o).row = 6 ∧ mov.row = (toPt o).row + 1 ∧ (mov.col + 1 = (toPt o).col ∨ mov.col = (toPt o).col + 1)

theorem pawnMovesEnPassant_iff (piece : Piece) (o : Spec.Sq) (p : Pos) (mov : Point) :
    pawnMovesEnPassant piece (toPt o).row (toPt o).col p = some mov ↔ p.ep = some mov ∧ EpGeo piece.color o mov := by
  unfold EpGeo
  have hcol2 : 2 ≤ (toPt o).col := Nat.le_add_left _ _
  generalize (toPt o).row = row at *
  generalize (toPt o).col = col at *
  unfold pawnMovesEnPassant
  cases p.ep with
  | none => simp
  | some dm =>
    have pt : ∀ a b, (⟨a, b⟩ : Point) = mov ↔ mov.row = a ∧ mov.col = b := fun a b => by cases mov; simp [eq_comm]
    -- per colour: off the fifth row both sides are false; on it the nested `if` of the model is opened
    -- (`ite_left_right_eq_some`), points are compared by coordinates (`pt`), and what is left is arithmetic in
    -- `col - 1`, `col + 1` with `2 ≤ col`
    cases piece.color <;> simp only [Gen.boardStart, Gen.whiteEpRowOff, Gen.blackEpRowOff, Nat.reduceAdd, Option.some.injEq]
    · by_cases hr : row = 5 <;>
        simp only [hr, if_true, if_false, ite_left_right_eq_some, pt, and_congr_right_iff, reduceCtorEq, false_iff, not_and, true_and,
          false_and, not_false_eq_true, implies_true] <;> omega
    · by_cases hr : row = 6 <;>
        simp only [hr, if_true, if_false, ite_left_right_eq_some, pt, and_congr_right_iff, reduceCtorEq, false_iff, not_and, true_and,
          false_and, not_false_eq_true, implies_true] <;> omega

theorem EpGeo.front_eq {c : Color} {o : Spec.Sq} {mov : Point} (g : EpGeo c o mov) :
    front c mov = ⟨(toPt o).row, mov.col⟩ := by
  unfold EpGeo at g
  unfold front
  cases c <;> simp only at g ⊢ <;> congr 1 <;> omega

theorem EpGeo.spec {c : Color} {o : Spec.Sq} {mov : Point} (g : EpGeo c o mov) (hm : OnBoard mov) :
    ((specOf mov).rank : Int) - o.rank = Spec.fwd c ∧ Spec.iabs (((specOf mov).file : Int) - o.file) = 1 ∧
    (0 < o.rank ∧ o.rank < 7 ∧ 0 < (specOf mov).rank ∧ (specOf mov).rank < 7) ∧
    OnBoard (front c mov) ∧ specOf (front c mov) = ⟨(specOf mov).file, o.rank⟩ := by
  obtain ⟨f, r⟩ := o
  obtain ⟨mr, mc⟩ := mov
  unfold EpGeo toPt at g
  unfold OnBoard at hm ⊢
  unfold specOf front Spec.fwd Spec.iabs
  -- the ranks are fixed numbers; what is left is about the two files
  cases c <;> simp only at g hm ⊢ <;> obtain ⟨g1, rfl, g3⟩ := g
  · obtain rfl : r = 4 := by omega
    exact ⟨by decide, by omega, by decide, by omega, rfl⟩
  · obtain rfl : r = 3 := by omega
    exact ⟨by decide, by omega, by decide, by omega, rfl⟩

theorem moveOf_epBoard (piece : Piece) (p : Pos) (o : Spec.Sq) (ho : InB o) (mov : Point) :
    moveOf (epBoard h piece p (toPt o) mov) = ⟨o, specOf mov, none⟩ := by
  rw [moveOf_of _ _ _ (epBoard_lastMove ..), epBoard_promo, specOf_toPt o ho]
  rfl

theorem ep_succ_abs (p : Pos) (lp : LP (abs p)) (o : Spec.Sq) (ho : InB o) (c : Color)
    (hpc : p.board.get (toPt o).row (toPt o).col = .full ⟨c, .pawn⟩) (hcol : c = p.toMove) (mov : Point)
    (hm : OnBoard mov) (hmv : pawnMovesEnPassant ⟨c, .pawn⟩ (toPt o).row (toPt o).col p = some mov) :
    Spec.isEnPassant (abs p) ⟨o, specOf mov, none⟩ = true ∧
    abs (epBoard h ⟨c, .pawn⟩ p (toPt o) mov) = Spec.apply (abs p) ⟨o, specOf mov, none⟩ := by
  have hto := toPt_onBoard o ho
  have hsrc : (abs p).at o = some ⟨c, .pawn⟩ := at_of_get p o ho _ hpc
  obtain ⟨hep, hgeo⟩ := (pawnMovesEnPassant_iff ⟨c, .pawn⟩ o p mov).mp hmv
  have hPep := abs_ep_some hep
  obtain ⟨_, _, hempty, _, _⟩ := lp.ep _ hPep
  obtain ⟨g1, g2, g3, hcapOn, hcapSq⟩ := hgeo.spec hm
  have hisep : Spec.isEnPassant (abs p) ⟨o, specOf mov, none⟩ = true :=
    (isEnPassant_iff _ _).mpr ⟨by rw [hsrc, abs_side, ← hcol], fun e => by simp only at e; rw [e] at g2; simp [Spec.iabs] at g2,
      Option.isNone_iff_eq_none.mp hempty⟩
  have hnc := ep_not_castle _ _ hisep
  refine ⟨hisep, ?_⟩
  apply abs_eq_apply p _ ⟨o, specOf mov, none⟩ _ hsrc
  · rw [apply_cells_ep _ _ _ hsrc hnc hisep, epBoard_board h c p (toPt o) mov hpc,
      ← put_absCells _ _ (moved_absCells (abs p) p.board rfl (toPt o) mov _ hto hm) _ .empty hcapOn, specOf_toPt o ho, hcapSq]
    rfl
  · exact epBoard_toMove ..
  · intro ct
    -- neither square is on the first or last rank, and a pawn is no king
    have : touchesSq ⟨o, specOf mov, none⟩ (cornerSq ct) = false := by
      simp only [touchesSq, Bool.or_eq_false_iff, beq_eq_false_iff_ne]
      constructor <;> intro e <;> rw [e] at g3 <;> cases ct <;> simp [cornerSq] at g3
    rw [epBoard_right, this]; simp
  · rw [epBoard_ep]
    exact (epAfter_eq_none fun ⟨_, h2⟩ => by rw [g1] at h2; cases c <;> exact absurd h2 (by decide)).symm

end Walleye
