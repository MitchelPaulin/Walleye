/-
  `Spec.pseudoLegal` is exactly (`pseudoLegal_iff`): an ordinary move (`normalRule`, Proofs/PseudoSpec, and the
  promotion flag the rules demand, `promoOK`), an en passant capture, or a castling (`castleCond`).  Also what
  the rules imply in a legal position: an ordinary move never lands on a king.
-/
import Walleye.Proofs.PseudoSpec
import Walleye.Proofs.Legal
import Walleye.Proofs.CheckSpec
namespace Walleye

/-- the promotion flag the rules demand (the `promoOk` of the pawn clause of `Spec.pseudoLegal`, and
    `m.promo.isNone` of the other clauses, in one) -/
def promoOK (c : Color) (pc : Piece) (t : Spec.Sq) (pr : Option Kind) : Bool :=
  if pc.kind == .pawn then
    (if t.rank == Spec.lastRank c then (match pr with | some k => Spec.promoKinds.contains k | none => false)
     else pr.isNone)
  else pr.isNone

/-- the castling clause of `Spec.pseudoLegal`: a copy of the `if m.dst.file == 6 … else …` under `isCastle` in
    its `.king` arm (Spec/Rules.lean), tied to it in `pseudoLegal_iff` by `show`; keep the two in step -/
def castleCond (P : Spec.Position) (m : Spec.Move) : Bool :=
  let c := P.side
  if m.dst.file == 6 then
    (match c with | .white => P.wks | .black => P.bks) &&
    P.at ⟨7, Spec.homeRank c⟩ == some ⟨c, .rook⟩ &&
    (P.at ⟨5, Spec.homeRank c⟩).isNone && (P.at ⟨6, Spec.homeRank c⟩).isNone &&
    !Spec.attacked P c.opp ⟨4, Spec.homeRank c⟩ && !Spec.attacked P c.opp ⟨5, Spec.homeRank c⟩ &&
    !Spec.attacked P c.opp ⟨6, Spec.homeRank c⟩
  else
    (match c with | .white => P.wqs | .black => P.bqs) &&
    P.at ⟨0, Spec.homeRank c⟩ == some ⟨c, .rook⟩ &&
    (P.at ⟨1, Spec.homeRank c⟩).isNone && (P.at ⟨2, Spec.homeRank c⟩).isNone && (P.at ⟨3, Spec.homeRank c⟩).isNone &&
    !Spec.attacked P c.opp ⟨4, Spec.homeRank c⟩ && !Spec.attacked P c.opp ⟨3, Spec.homeRank c⟩ &&
    !Spec.attacked P c.opp ⟨2, Spec.homeRank c⟩

/-! The two promotion lists: `Gen.promotionOrder` (the order `promote_pawn` pushes in) and `Spec.promoKinds`. -/

theorem mem_promotionOrder (k : Kind) : k ∈ Gen.promotionOrder ↔ k ∈ Spec.promoKinds := by cases k <;> decide

theorem promotionOrder_nodup : Gen.promotionOrder.Nodup := by decide

theorem promoKinds_ne {k : Kind} (h : k ∈ Spec.promoKinds) : k ≠ .king ∧ k ≠ .pawn := by
  revert h; cases k <;> decide

theorem promoOK_iff (c : Color) (pc : Piece) (t : Spec.Sq) (pr : Option Kind) :
    promoOK c pc t pr = true ↔
      if pc.kind = .pawn ∧ t.rank = Spec.lastRank c then ∃ k, pr = some k ∧ k ∈ Spec.promoKinds else pr = none := by
  unfold promoOK
  by_cases hk : pc.kind = .pawn <;> by_cases hl : t.rank = Spec.lastRank c <;> cases pr <;> simp [hk, hl]

theorem promoOK_of_ne (c : Color) (pc : Piece) (t : Spec.Sq) (pr : Option Kind) (h : pc.kind ≠ .pawn) :
    promoOK c pc t pr = true ↔ pr = none := by simp [promoOK, h]

theorem promoOK_none {c : Color} {pc : Piece} {t : Spec.Sq} {pr : Option Kind} (h : promoOK c pc t pr = true)
    (hn : ¬ (pc.kind = .pawn ∧ t.rank = Spec.lastRank c)) : pr = none := by
  have hx := (promoOK_iff c pc t pr).mp h
  rwa [if_neg hn] at hx

theorem promoOK_some {c : Color} {pc : Piece} {t : Spec.Sq} {k : Kind} (h : promoOK c pc t (some k) = true) :
    pc.kind ≠ .king ∧ k ≠ .king := by
  have hx := (promoOK_iff _ _ _ _).mp h
  split at hx
  · next hc =>
    obtain ⟨_, ⟨⟩, hk⟩ := hx
    exact ⟨by rw [hc.1]; nofun, (promoKinds_ne hk).1⟩
  · cases hx

theorem castle_dst_empty (P : Spec.Position) (m : Spec.Move) (hic : Spec.isCastle P m = true)
    (hcc : castleCond P m = true) : P.at m.dst = none := by
  obtain ⟨s, ⟨f, r⟩, pr⟩ := m
  obtain ⟨-, -, rfl, rfl | rfl⟩ := (isCastle_iff _ _).mp hic
  · simp only [castleCond, beq_self_eq_true, if_true, Bool.and_eq_true, Option.isNone_iff_eq_none] at hcc
    exact hcc.1.1.1.2
  · simp only [castleCond, Nat.reduceBEq, Bool.false_eq_true, if_false, Bool.and_eq_true, Option.isNone_iff_eq_none] at hcc
    exact hcc.1.1.1.1.2

theorem pseudoLegal_iff (P : Spec.Position) (m : Spec.Move) :
    Spec.pseudoLegal P m = true ↔
      InB m.src ∧ InB m.dst ∧ ∃ pc, P.at m.src = some pc ∧ pc.color = P.side ∧
        ((normalRule P m.src pc m.dst = true ∧ promoOK P.side pc m.dst m.promo = true) ∨
         (pc.kind = .pawn ∧ m.src.file ≠ m.dst.file ∧ Spec.attacksFrom P m.src pc m.dst = true ∧
            (P.at m.dst).isSome = false ∧ P.ep = some m.dst ∧ promoOK P.side pc m.dst m.promo = true) ∨
         (pc.kind = .king ∧ m.promo = none ∧ Spec.isCastle P m = true ∧ castleCond P m = true)) := by
  unfold InB
  rcases hs : P.at m.src with _ | ⟨c, k⟩
  · simp [Spec.pseudoLegal, hs]
  simp only [Spec.pseudoLegal, hs, Bool.and_eq_true, decide_eq_true_eq, beq_iff_eq (a := c), Option.some.injEq,
    exists_eq_left', and_assoc, and_congr_right_iff]
  rintro - - - - rfl
  show tgtFree P P.side m.dst = true ∧ _ ↔ _
  -- the three arms of the `match` on the kind.  In each the specification says `free ∧ flag ∧ rule` (target test,
  -- promotion flag, rule of movement), the right side `(free ∧ rule) ∧ flag` (`normalRule` is target test and
  -- rule): once both sides are unfolded, `and_left_comm.trans and_comm` moves the flag to the end
  rcases (by cases k <;> simp : k = .pawn ∨ k = .king ∨ k ≠ .pawn ∧ k ≠ .king) with rfl | rfl | ⟨h1, h2⟩
  · show _ ∧ (promoOK _ ⟨P.side, .pawn⟩ _ _ && _) = true ↔ _
    by_cases hf : m.src.file = m.dst.file <;>
      simp only [normalRule_pawn, hf, beq_iff_eq, Bool.and_eq_true, Bool.or_eq_true, decide_eq_true_eq, if_true, if_false,
        ne_eq, not_true_eq_false, not_false_eq_true, reduceCtorEq, true_and, false_and, or_false]
    · exact and_left_comm.trans and_comm
    · -- off the file: onto an occupied square it is an ordinary capture, onto an empty one en passant
      -- (`flag ∧ attack ∧ ep` against `attack ∧ ep ∧ flag`)
      cases hd : P.at m.dst <;> simp [tgtFree, hd]
      · exact and_comm.trans and_assoc
      · exact and_left_comm.trans and_comm
  · show _ ∧ (_ && (_ || _ && castleCond P m)) = true ↔ _
    simp only [Bool.and_eq_true, Option.isNone_iff_eq_none, Bool.or_eq_true, normalRule_of_ne_pawn, ne_eq, reduceCtorEq,
      not_false_eq_true, promoOK_of_ne, Option.isSome_eq_false_iff, false_and, true_and, false_or]
    -- `free ∧ flag ∧ (step ∨ castling)`: distributed over the two; for a castling `free` follows from `castleCond`
    rw [and_or_left, and_or_left]
    exact or_congr (and_left_comm.trans and_comm)
      (and_iff_right_of_imp fun hc => by rw [tgtFree, castle_dst_empty P m hc.2.1 hc.2.2])
  · simp only [Bool.and_eq_true, Option.isNone_iff_eq_none, normalRule_of_ne_pawn, ne_eq, h1, not_false_eq_true,
      promoOK_of_ne, Option.isSome_eq_false_iff, false_and, h2, or_self, or_false]
    exact and_left_comm.trans and_comm

theorem legal_iff (P : Spec.Position) (m : Spec.Move) :
    Spec.legal P m = true ↔ Spec.pseudoLegal P m = true ∧ Spec.inCheck (Spec.apply P m) P.side = false := by
  unfold Spec.legal; rw [Bool.and_eq_true, Bool.not_eq_true']

/-- `isCastle` already fixes the king, its square and the bounds -/
theorem pseudoLegal_of_castle (P : Spec.Position) (m : Spec.Move) (hpr : m.promo = none)
    (hic : Spec.isCastle P m = true) (hcc : castleCond P m = true) : Spec.pseudoLegal P m = true := by
  obtain ⟨hK, hsrc, hr, hf⟩ := (isCastle_iff P m).mp hic
  have hh : Spec.homeRank P.side < 8 := by cases P.side <;> decide
  exact (pseudoLegal_iff P m).mpr ⟨by rw [hsrc]; exact ⟨(by decide : 4 < 8), hh⟩, ⟨by omega, hr ▸ hh⟩, _, hK, rfl,
    .inr (.inr ⟨rfl, hpr, hic, hcc⟩)⟩

/-- a king on the target would be in check with its opponent to move, against `lp.notInCheck` -/
theorem spec_no_king_capture (P : Spec.Position) (lp : LP P) (o t : Spec.Sq) (ho : InB o) (ht : InB t) (pc : Piece)
    (hsrc : P.at o = some pc) (hcol : pc.color = P.side) (hrule : normalRule P o pc t = true) (c : Color) :
    P.at t ≠ some ⟨c, .king⟩ := by
  intro hdst
  -- onto an occupied square a pawn moves by capturing, as the others do
  obtain ⟨hfree, hatt⟩ : tgtFree P pc.color t = true ∧ Spec.attacksFrom P o pc t = true := by
    by_cases hk : pc.kind = .pawn
    · obtain ⟨pcc, pk⟩ := pc
      obtain rfl : pk = .pawn := hk
      obtain ⟨hfree, h⟩ := (normalRule_pawn ..).mp hrule
      by_cases hf : o.file = t.file
      · rw [if_pos hf, hdst] at h; cases h.1
      · rw [if_neg hf] at h; exact ⟨hfree, h.1⟩
    · rwa [normalRule_of_ne_pawn P o pc t hk, Bool.and_eq_true] at hrule
  unfold tgtFree at hfree
  rw [hdst] at hfree
  have hne : c ≠ pc.color := by simpa using hfree
  have hcopp : c = P.side.opp := by
    rw [← hcol]; cases c <;> cases hx : pc.color <;> first | rfl | exact absurd hx.symm hne
  have hin := attacked_of P P.side o t pc ho hsrc hcol hatt
  have hnc := lp.notInCheck
  have : Spec.inCheck P P.side.opp = true := by
    unfold Spec.inCheck Spec.kingSquares
    rw [List.any_eq_true]
    refine ⟨t, ?_, by rw [Color.opp_opp]; exact hin⟩
    rw [List.mem_filter]
    exact ⟨(mem_allSquares _).mpr ht, by rw [hdst, hcopp]; simp⟩
  rw [this] at hnc; cases hnc

end Walleye
