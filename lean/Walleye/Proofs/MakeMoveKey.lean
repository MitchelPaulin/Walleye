/- The text-move applier `make_move` as a producer of positions: key exact and ring kept (C05, C04),
   every hasher.  Hypotheses = what the text of a LEGAL move guarantees (`MoveTextOK`). -/
import Walleye.Proofs.Succ
import Walleye.Proofs.UciTextFacts
namespace Walleye
open Str

/-- stage A: king cache / rights, double step, en passant victim -/
def mkA (h : Hasher) (b : Pos) (sp ep : Point) (piece : Piece) : Pos :=
  if piece.kind = .king then
    (match piece.color with
     | .white => (({ b with wk := ep }).takeAway h .wqs).takeAway h .wks
     | .black => (({ b with bk := ep }).takeAway h .bqs).takeAway h .bks)
  else if piece.kind = .pawn then
    let b :=
      if ((sp.row : Int) - ep.row).natAbs = 2 then
        let target : Point := match piece.color with
          | .white => ⟨sp.row - 1, sp.col⟩
          | .black => ⟨sp.row + 1, sp.col⟩
        { b with key := b.key ^^^ h.epFile target.col, ep := some target }
      else b
    if sp.col ≠ ep.col ∧ b.board.get ep.row ep.col = .empty then
      { b with board := b.board.set sp.row ep.col .empty,
               key := b.key ^^^ h.piece ⟨b.toMove.opp, .pawn⟩ ⟨sp.row, ep.col⟩ }
    else b
  else b

/-- stage B: rights lost by touching a corner square (substring tests) -/
def mkB (h : Hasher) (b : Pos) (mv : List Char) : Pos :=
  let b := if contains mv ['a', '8'] then b.takeAway h .bqs else b
  let b := if contains mv ['h', '8'] then b.takeAway h .bks else b
  let b := if contains mv ['a', '1'] then b.takeAway h .wqs else b
  if contains mv ['h', '1'] then b.takeAway h .wks else b

/-- stage D: promotion -/
def mkD (h : Hasher) (b : Pos) (mv : List Char) (ep : Point) : Option Pos :=
  if byteLen mv = 5 then
    match mv[4]? with
    | none => none
    | some ch =>
      let pp : Piece := ⟨b.toMove, letterKind ch⟩
      some { b with key := b.key ^^^ (h.piece ⟨b.toMove, .pawn⟩ ep ^^^ h.piece pp ep),
                    board := b.board.set ep.row ep.col (.full pp) }
  else some b

/-- stage E: rook hop of a castling move, then the side swap -/
def mkE (h : Hasher) (b : Pos) (mv : List Char) (ep : Point) : Pos :=
  let tgt := b.board.get ep.row ep.col
  let b :=
    if mv = Gen.wksStr.toList ∧ tgt.isPiece ⟨.white, .king⟩ then b.movePiece h ⟨9, 9⟩ ⟨9, 7⟩
    else if mv = Gen.wqsStr.toList ∧ tgt.isPiece ⟨.white, .king⟩ then b.movePiece h ⟨9, 2⟩ ⟨9, 5⟩
    else if mv = Gen.bksStr.toList ∧ tgt.isPiece ⟨.black, .king⟩ then b.movePiece h ⟨2, 9⟩ ⟨2, 7⟩
    else if mv = Gen.bqsStr.toList ∧ tgt.isPiece ⟨.black, .king⟩ then b.movePiece h ⟨2, 2⟩ ⟨2, 5⟩
    else b
  b.swapColor h

/-- `make_move` as its stages; stage C, between B and D, is `move_piece` itself.  A literal copy of
    `makeMove` (Model/UciText.lean) with the four blocks named: edit it with the model -/
theorem makeMove_eq (h : Hasher) (p : Pos) (mv : List Char) :
    makeMove h p mv =
      match byteSlice mv 0 2, byteSlice mv 2 4 with
      | some s1, some s2 =>
        match parsePoint? s1, parsePoint? s2 with
        | some sp, some ep =>
          match (p.unsetEp h).board.get sp.row sp.col with
          | .full piece =>
            (match mkD h ((mkB h (mkA h (p.unsetEp h) sp ep piece) mv).movePiece h sp ep) mv ep with
             | none => none
             | some b' => some (mkE h b' mv ep))
          | _ => none
        | _, _ => none
      | _, _ => none := rfl

theorem mkB_ind {h : Hasher} {P : Pos → Prop} (hP : ∀ x ct, P x → P (x.takeAway h ct)) (b : Pos) (mv : List Char)
    (hb : P b) : P (mkB h b mv) := by
  have step : ∀ (c : Bool) (ct : CastlingType) (x : Pos), P x → P (if c = true then x.takeAway h ct else x) :=
    fun c ct x hx => by
      cases c with
      | false => exact hx
      | true => exact hP x ct hx
  exact step _ _ _ (step _ _ _ (step _ _ _ (step _ _ _ hb)))

theorem mkB_good (h : Hasher) (b : Pos) (mv : List Char) (hg : Good h b) : Good h (mkB h b mv) :=
  mkB_ind (fun _ ct hx => hx.takeAway ct) b mv hg

theorem mkB_board (h : Hasher) (b : Pos) (mv : List Char) : (mkB h b mv).board = b.board :=
  mkB_ind (P := fun x => x.board = b.board) (fun x ct e => (takeAway_board h x ct).trans e) b mv rfl

theorem mkB_toMove (h : Hasher) (b : Pos) (mv : List Char) : (mkB h b mv).toMove = b.toMove :=
  mkB_ind (P := fun x => x.toMove = b.toMove) (fun x ct e => (takeAway_toMove h x ct).trans e) b mv rfl

theorem mkE_good (h : Hasher) (b : Pos) (mv : List Char) (ep : Point) (hg : Good h b) : Good h (mkE h b mv ep) := by
  unfold mkE
  dsimp only
  apply Good.swapColor
  repeat' split
  all_goals first | exact hg | exact hg.movePiece _ (by decide)

section
variable (h : Hasher) (b : Pos) (sp ep : Point) (piece : Piece)

theorem mkA_fields :
    (mkA h b sp ep piece).toMove = b.toMove ∧
    (mkA h b sp ep piece).board =
      (if piece.kind = .pawn ∧ sp.col ≠ ep.col ∧ b.board.get ep.row ep.col = .empty
        then b.board.set sp.row ep.col .empty else b.board) ∧
    (mkA h b sp ep piece).ep =
      (if piece.kind = .pawn ∧ ((sp.row : Int) - ep.row).natAbs = 2 then some (front piece.color.opp sp) else b.ep) ∧
    (∀ c, kingPt (mkA h b sp ep piece) c = if piece = ⟨c, .king⟩ then ep else kingPt b c) ∧
    (∀ ct, (mkA h b sp ep piece).right ct = (b.right ct && !(piece.kind == .king && piece.color == rightColor ct))) := by
  obtain ⟨c, k⟩ := piece
  unfold mkA
  by_cases hk : k = .king
  · subst hk
    cases c <;> simp only [if_true] <;>
      exact ⟨by simp, by simp, by simp, fun c' => by cases c' <;> simp [kingPt],
        fun ct => by cases ct <;> simp [Pos.right, rightColor, takeAway_flags]⟩
  · rw [if_neg hk]
    have nk : ∀ c', ¬ ((⟨c, k⟩ : Piece) = ⟨c', .king⟩) := fun c' e => hk (congrArg Piece.kind e)
    have bk : (k == Kind.king) = false := by simpa using hk
    simp only [nk, bk, if_false, Bool.false_and, Bool.not_false, Bool.and_true]
    by_cases hp : k = .pawn
    · subst hp
      rw [if_pos rfl]
      simp only [true_and]
      by_cases hd : ((sp.row : Int) - ep.row).natAbs = 2 <;> simp only [hd, if_true, if_false] <;> split <;>
        exact ⟨rfl, rfl, by cases c <;> rfl, fun c' => by cases c' <;> rfl, fun ct => by cases ct <;> rfl⟩
    · rw [if_neg hp, if_neg (fun hc => hp hc.1), if_neg (fun hc => hp hc.1)]
      exact ⟨rfl, rfl, rfl, fun _ => rfl, fun _ => rfl⟩

/-- the en passant victim stands beside the origin, never on it -/
theorem mkA_get_origin : (mkA h b sp ep piece).board.get sp.row sp.col = b.board.get sp.row sp.col := by
  simp only [mkA_fields]
  split
  · rename_i hv; exact Board.get_set_ne _ _ _ _ _ _ (fun e => hv.2.1 e.2.symm)
  · rfl

theorem mkA_good (hg : Good h b) (hep : b.ep = none) (hsp : OnBoard sp) (hepo : OnBoard ep)
    (hcap : piece.kind = .pawn → sp.col ≠ ep.col → b.board.get ep.row ep.col = .empty →
      b.board.get sp.row ep.col = .full ⟨b.toMove.opp, .pawn⟩) :
    Good h (mkA h b sp ep piece) := by
  unfold mkA
  split
  · split
    · exact (Good.takeAway (p := { b with wk := ep }) hg _).takeAway _
    · exact (Good.takeAway (p := { b with bk := ep }) hg _).takeAway _
  · split
    · rename_i hk
      dsimp only
      have hds : ∀ t : Point, ∀ x : Pos,
          x = (if ((sp.row : Int) - ep.row).natAbs = 2 then { b with key := b.key ^^^ h.epFile t.col, ep := some t } else b) →
          Good h x ∧ x.board = b.board ∧ x.toMove = b.toMove := by
        rintro t x rfl
        split
        · exact ⟨hg.setEp t hep, rfl, rfl⟩
        · exact ⟨hg, rfl, rfl⟩
      obtain ⟨hgx, hbx, htx⟩ := hds _ _ rfl
      generalize (if ((sp.row : Int) - ep.row).natAbs = 2 then _ else b) = x at hgx hbx htx ⊢
      split
      · rename_i hc
        have hon : OnBoard ⟨sp.row, ep.col⟩ := by unfold OnBoard at *; simp only; omega
        have hv := hcap hk hc.1 (by rw [← hbx]; exact hc.2)
        exact hgx.capture (pt := ⟨sp.row, ep.col⟩) hon (by rw [hbx, htx]; exact hv)
      · exact hgx
    · exact hg

end

theorem mkD_good (h : Hasher) (c d : Pos) (mv : List Char) (ep : Point) (hg : Good h c) (hepo : OnBoard ep)
    (hget : byteLen mv = 5 → c.board.get ep.row ep.col = .full ⟨c.toMove, .pawn⟩)
    (hD : mkD h c mv ep = some d) : Good h d := by
  unfold mkD at hD
  split at hD
  · rename_i h5
    split at hD
    · cases hD
    · dsimp only at hD
      injection hD with hD
      subst hD
      exact hg.set _ hepo (by rw [hget h5]; rfl)
  · injection hD with hD
    subst hD
    exact hg

/-- what the applier relies on, for the two squares the text names: a pawn moving diagonally onto an
    empty square has an enemy pawn beside it (en passant); a five-character move is made by a pawn
    of the side to move.  The text of every generated move satisfies this (`MoveOK.moveTextOK` on what
    `generated_move_replays` gives, Proofs/MakeMoveObs); `legal_text_ok` there says so for a legal move. -/
def MoveTextOK (p : Pos) (mv : List Char) : Prop :=
  (∀ (s1 s2 : List Char) (sp ep : Point) (piece : Piece), Str.byteSlice mv 0 2 = some s1 → Str.byteSlice mv 2 4 = some s2 →
      parsePoint? s1 = some sp → parsePoint? s2 = some ep → p.board.get sp.row sp.col = .full piece → piece.kind = .pawn →
      sp.col ≠ ep.col → p.board.get ep.row ep.col = .empty → p.board.get sp.row ep.col = .full ⟨p.toMove.opp, .pawn⟩) ∧
  (∀ sp : Point, ∀ piece : Piece, Str.byteLen mv = 5 → p.board.get sp.row sp.col = .full piece →
      (∃ s1, Str.byteSlice mv 0 2 = some s1 ∧ parsePoint? s1 = some sp) → piece = ⟨p.toMove, .pawn⟩)

theorem Good.makeMove {h : Hasher} {p p' : Pos} {mv : List Char} (hg : Good h p) (hok : MoveTextOK p mv)
    (hm : makeMove h p mv = some p') : Good h p' := by
  rw [makeMove_eq] at hm
  split at hm
  · rename_i s1 s2 hs1 hs2
    split at hm
    · rename_i sp ep hsp hep
      split at hm
      · rename_i piece hpiece
        have hspo := parsePoint?_onBoard hsp
        have hepo := parsePoint?_onBoard hep
        simp only [unsetEp_board] at hpiece
        have hgA := mkA_good h (p.unsetEp h) sp ep piece hg.unsetEp (by simp) hspo hepo
          (by simp only [unsetEp_board, unsetEp_toMove]; exact hok.1 s1 s2 sp ep piece hs1 hs2 hsp hep hpiece)
        have hgB := mkB_good h _ mv hgA
        have hspB : (mkB h (mkA h (p.unsetEp h) sp ep piece) mv).board.get sp.row sp.col = .full piece := by
          rw [mkB_board, mkA_get_origin, unsetEp_board]
          exact hpiece
        have hgC := hgB.movePiece sp hepo
        have hbC := movePiece_board_full h (mkB h (mkA h (p.unsetEp h) sp ep piece) mv) sp ep piece hspB
        have htC : ((mkB h (mkA h (p.unsetEp h) sp ep piece) mv).movePiece h sp ep).toMove = p.toMove := by
          simp only [movePiece_toMove, mkB_toMove, mkA_fields, unsetEp_toMove]
        generalize (mkB h (mkA h (p.unsetEp h) sp ep piece) mv).movePiece h sp ep = c at hm hgC hbC htC
        have hmr : ep.row < 12 ∧ ep.col < 12 := by unfold OnBoard at hepo; omega
        have hget5 : byteLen mv = 5 → c.board.get ep.row ep.col = .full ⟨c.toMove, .pawn⟩ := by
          intro h5
          have hpe := hok.2 sp piece h5 hpiece ⟨s1, hs1, hsp⟩
          rw [hbC, Board.get_set_eq _ _ _ _ hmr.1 hmr.2, hpe, htC]
        split at hm
        · cases hm
        · rename_i d hD
          obtain rfl := Option.some.inj hm
          exact mkE_good h d mv ep (mkD_good h c d mv ep hgC hepo hget5 hD)
      · cases hm
    · cases hm
  · cases hm

/-- `Good.makeMove` with `MoveTextOK` written out -/
theorem makeMove_good (h : Hasher) (p p' : Pos) (mv : List Char) (hg : Good h p)
    (hcap : ∀ (s1 s2 : List Char) (sp ep : Point) (piece : Piece), byteSlice mv 0 2 = some s1 → byteSlice mv 2 4 = some s2 →
      parsePoint? s1 = some sp → parsePoint? s2 = some ep → p.board.get sp.row sp.col = .full piece → piece.kind = .pawn →
      sp.col ≠ ep.col → p.board.get ep.row ep.col = .empty → p.board.get sp.row ep.col = .full ⟨p.toMove.opp, .pawn⟩)
    (hpromo : ∀ sp : Point, ∀ piece : Piece, byteLen mv = 5 → p.board.get sp.row sp.col = .full piece →
      (∃ s1, byteSlice mv 0 2 = some s1 ∧ parsePoint? s1 = some sp) → piece = ⟨p.toMove, .pawn⟩)
    (hm : makeMove h p mv = some p') : Good h p' :=
  hg.makeMove ⟨hcap, hpromo⟩ hm

end Walleye
