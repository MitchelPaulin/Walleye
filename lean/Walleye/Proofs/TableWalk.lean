/-
  Reading a long table literal in the kernel.  `l.getD i` walks `l` from its head at every call, and
  the kernel does not share that work between calls, so a check that looks up many entries of a
  generated table pays for the table's length each time.  `lockstep` reads several parts of one table
  side by side in a single pass instead; `lockstep_spec` and `suffixes_getD` translate what it
  checked back into statements about `getD`.
-/
namespace Walleye

def lockstep (ok : List UInt64 → Bool) (on : Nat → Bool) : List (List UInt64) → Nat → Nat → Bool
  | _, _, 0 => true
  | ls, j, n + 1 => (!on j || ok (ls.map (·.headD 0))) && lockstep ok on (ls.map List.tail) (j + 1) n

theorem lockstep_spec (ok : List UInt64 → Bool) (on : Nat → Bool) :
    ∀ (n : Nat) (ls : List (List UInt64)) (j : Nat), lockstep ok on ls j n = true →
      ∀ i, i < n → on (j + i) = true → ok (ls.map (·.getD i 0)) = true := by
  intro n
  induction n with
  | zero => intro _ _ _ i hi; omega
  | succ n ih =>
    intro ls j h i hi hon
    simp only [lockstep, Bool.and_eq_true, Bool.or_eq_true, Bool.not_eq_true'] at h
    cases i with
    | zero =>
      rcases h.1 with h0 | h0
      · rw [Nat.add_zero, h0] at hon; cases hon
      · rw [← h0]; exact congrArg ok (List.map_congr_left fun l _ => by cases l <;> rfl)
    | succ i =>
      rw [← ih _ _ h.2 i (by omega) (by rw [Nat.add_right_comm]; exact hon), List.map_map]
      exact congrArg ok (List.map_congr_left fun l _ => by cases l <;> rfl)

def suffixes (m : Nat) (l : List UInt64) : Nat → List (List UInt64)
  | 0 => []
  | n + 1 => l :: suffixes m (l.drop m) n

theorem suffixes_getD (m i : Nat) : ∀ (n : Nat) (l : List UInt64),
    (suffixes m l n).map (·.getD i 0) = (List.range n).map fun k => l.getD (m * k + i) 0 := by
  intro n
  induction n with
  | zero => intro _; rfl
  | succ n ih =>
    intro l
    rw [suffixes, List.map_cons, ih, List.range_succ_eq_map, List.map_cons, List.map_map]
    congr 1
    · rw [Nat.mul_zero, Nat.zero_add]
    · refine List.map_congr_left fun k _ => ?_
      simp only [Function.comp, List.getD_eq_getElem?_getD, List.getElem?_drop, Nat.mul_succ]
      congr 2; omega

end Walleye
