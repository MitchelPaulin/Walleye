/-
  The chess instance satisfies the hypotheses of `ab_spec`: the evaluation is bounded (C14) and the
  minimax value of a position does not depend on its ordering tag (`order_heuristic`): positions
  that differ at most in the tag are bisimilar (`chess_bisim`), because no step of the generator
  reads the parent's tag — ordinary successors overwrite it, en passant and castling successors
  carry it along.
-/
import Walleye.Proofs.NegamaxRange
import Walleye.Proofs.Succ
import Walleye.Proofs.Check
import Walleye.Proofs.Eval
import Walleye.Model.SearchChess
namespace Walleye
open Spec

def EqOh (p q : Pos) : Prop := ({ p with oh := 0 } : Pos) = { q with oh := 0 }

theorem EqOh.refl (p : Pos) : EqOh p p := rfl

theorem eqOh_withOh (p : Pos) (x : Int) : EqOh { p with oh := x } p := rfl

theorem EqOh.eq {p q : Pos} (h : EqOh p q) : p = { q with oh := p.oh } :=
  congrArg (fun r : Pos => { r with oh := p.oh }) h

/-- whatever does not read the tag agrees: `h.field Pos.board` is `p.board = q.board` by unfolding -/
theorem EqOh.field {p q : Pos} (h : EqOh p q) {α : Type} (f : Pos → α) :
    f { p with oh := 0 } = f { q with oh := 0 } := congrArg f h

theorem EqOh.isCheck {a b : Pos} (hab : EqOh a b) (c : Color) : isCheck a c = isCheck b c :=
  isCheck_congr a b c (hab.field Pos.board) (hab.field Pos.wk) (hab.field Pos.bk)

theorem isCheck_oh (p : Pos) (x : Int) (c : Color) : isCheck { p with oh := x } c = isCheck p c :=
  isCheck_congr _ _ c rfl rfl rfl

theorem canCastle_oh (p : Pos) (x : Int) (ct : CastlingType) : canCastle { p with oh := x } ct = canCastle p ct := by
  cases ct <;> rfl

variable (h : Hasher)

theorem succsForTarget_oh (piece : Piece) (p : Pos) (x : Int) (sq mov : Point) :
    succsForTarget h piece { p with oh := x } sq mov = succsForTarget h piece p sq mov := by
  have e1 : st1 h piece { p with oh := x } sq mov = st1 h piece p sq mov := by
    rw [st1_eq, st1_eq]
    show (((p.swapColor h).book p.wk p.bk x p.lastMove p.promo).movePiece h sq mov).book _ _ _ _ _ = _
    rw [movePiece_book]
    rfl
  rw [succsForTarget_eq, succsForTarget_eq, e1]

theorem unsetEp_withOh (q : Pos) (x : Int) : ({ q with oh := x } : Pos).unsetEp h = { q.unsetEp h with oh := x } :=
  (unsetEp_book h q q.wk q.bk x q.lastMove q.promo).trans (by simp [Pos.book])

theorem movePiece_withOh (q : Pos) (x : Int) (s e : Point) :
    ({ q with oh := x } : Pos).movePiece h s e = { q.movePiece h s e with oh := x } :=
  (movePiece_book h q s e q.wk q.bk x q.lastMove q.promo).trans (by simp [Pos.book])

/-- the legality filter at the end of the en passant block sees the same board and king caches -/
theorem ListRel.unlessCheck {a b : Pos} (hab : EqOh a b) (c : Color) :
    ListRel EqOh (if !isCheck a c then [a] else []) (if !isCheck b c then [b] else []) := by
  rw [hab.isCheck c]
  split
  · exact .cons hab .nil
  · exact .nil

theorem epBoard_withOh (piece : Piece) (p : Pos) (x : Int) (sq mov : Point) :
    epBoard h piece { p with oh := x } sq mov = { epBoard h piece p sq mov with oh := x } := by
  unfold epBoard
  dsimp only
  rw [show ((({ p with oh := x, promo := none, lastMove := some (sq, mov) } : Pos).swapColor h).unsetEp h).movePiece h sq mov =
      { ((({ p with promo := none, lastMove := some (sq, mov) } : Pos).swapColor h).unsetEp h).movePiece h sq mov with oh := x } by
    rw [← movePiece_withOh, ← unsetEp_withOh]; rfl]
  cases piece.color <;> rfl

theorem epSuccs_oh (piece : Piece) (p : Pos) (x : Int) (sq : Point) :
    ListRel EqOh (epSuccs h piece { p with oh := x } sq) (epSuccs h piece p sq) := by
  rw [epSuccs_eq, epSuccs_eq]
  show ListRel EqOh (if p.ep.isSome ∧ piece.kind = .pawn then
      match pawnMovesEnPassant piece sq.row sq.col p with
      | none => []
      | some mov =>
        if !isCheck (epBoard h piece { p with oh := x } sq mov) p.toMove then [epBoard h piece { p with oh := x } sq mov] else []
    else []) _
  split
  · cases pawnMovesEnPassant piece sq.row sq.col p with
    | none => exact .nil
    | some mov =>
      dsimp only
      rw [epBoard_withOh]
      exact ListRel.unlessCheck (eqOh_withOh _ x) _
  · exact .nil

theorem castleSucc_withOh (p : Pos) (x : Int) (ct : CastlingType) :
    castleSucc h { p with oh := x } ct = { castleSucc h p ct with oh := x } := by
  rw [castleSucc_eq, castleSucc_eq]
  show (((((((p.swapColor h).book p.wk p.bk x p.lastMove p.promo).unsetEp h).takeAway h _).takeAway h _).movePiece h _ _).movePiece
    h _ _).book _ _ _ _ _ = _
  rw [unsetEp_book, takeAway_book, takeAway_book, movePiece_book, movePiece_book]
  rfl

theorem castling_oh (p : Pos) (x : Int) :
    ListRel EqOh (generateCastlingMoves h { p with oh := x }) (generateCastlingMoves h p) := by
  unfold generateCastlingMoves
  simp only [canCastle_oh]
  have one : ∀ (c : Prop) [Decidable c] (ct : CastlingType),
      ListRel EqOh (if c then [castleSucc h { p with oh := x } ct] else []) (if c then [castleSucc h p ct] else []) := by
    intro c _ ct
    split
    · exact .cons (castleSucc_withOh h p x ct ▸ eqOh_withOh _ x) .nil
    · exact .nil
  exact ListRel.append (ListRel.append (ListRel.append (one _ _) (one _ _)) (one _ _)) (one _ _)

theorem generateMovesForPiece_oh (piece : Piece) (p : Pos) (x : Int) (sq : Point) (mode : Mode) :
    ListRel EqOh (generateMovesForPiece h piece { p with oh := x } sq mode) (generateMovesForPiece h piece p sq mode) := by
  unfold generateMovesForPiece
  rw [show succsForTarget h piece { p with oh := x } sq = succsForTarget h piece p sq from
    funext (succsForTarget_oh h piece p x sq)]
  exact (ListRel.refl EqOh.refl _).append (epSuccs_oh h piece p x sq)

theorem generateMoves_oh (p : Pos) (x : Int) (mode : Mode) :
    ListRel EqOh (generateMoves h { p with oh := x } mode) (generateMoves h p mode) := by
  unfold generateMoves
  refine ListRel.append (ListRel.flatMap _ _ _ fun pt _ => ?_) ?_
  · show ListRel EqOh (match p.board.get pt.row pt.col with
      | .full piece => if piece.color = p.toMove then generateMovesForPiece h piece { p with oh := x } pt mode else []
      | _ => []) _
    cases p.board.get pt.row pt.col with
    | empty => exact .nil
    | boundary => exact .nil
    | full piece =>
      dsimp only
      split
      · exact generateMovesForPiece_oh h piece p x pt mode
      · exact .nil
  · split
    · exact castling_oh h p x
    · exact .nil

theorem chess_bisim : Bisim (chessGame h) EqOh where
  eval p q hpq := eval_ignores_other_fields p q (hpq.field Pos.board) (hpq.field Pos.toMove)
  key _ _ hpq := hpq.field Pos.key
  inCheck p q hpq := by
    show isCheck p p.toMove = isCheck q q.toMove
    rw [show p.toMove = q.toMove from hpq.field Pos.toMove]; exact hpq.isCheck _
  gen p q mode hpq := by
    show ListRel EqOh (generateMoves h p mode) (generateMoves h q mode)
    rw [hpq.eq]; exact generateMoves_oh h q p.oh mode

theorem chess_gameOK : GameOK (chessGame h) 70400 :=
  .of_bisim (chess_bisim h) getEvaluation_bound fun m x => eqOh_withOh m x

end Walleye
