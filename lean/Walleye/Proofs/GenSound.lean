/-
  C01 (soundness) and C02 for the whole generator: every successor `generate_moves` returns carries a
  LEGAL move of the specification and is the specification's position after that move; in capture-only
  mode (C13) the move captures (`isCaptureSpec`).

  `mem_generateMoves_toPt` says where a successor comes from: a target of a piece of the side to move,
  the en passant block of such a piece (opened by `mem_epSuccs`), or (all-moves mode) a castling.
  Every theorem about "all successors" is this case distinction followed by the theorem for the kind.
-/
import Walleye.Proofs.SoundEp
import Walleye.Proofs.CastleSound
import Walleye.Proofs.Caps
namespace Walleye

variable (h : Hasher)

def isCaptureSpec (P : Spec.Position) (m : Spec.Move) : Bool := (P.at m.dst).isSome || Spec.isEnPassant P m

theorem mem_generateMoves_toPt (p : Pos) (mode : Mode) (q : Pos) :
    q ∈ generateMoves h p mode ↔
      (∃ o pc, InB o ∧ p.board.get (toPt o).row (toPt o).col = .full pc ∧ pc.color = p.toMove ∧
        ((∃ mov ∈ getMoves pc (toPt o).row (toPt o).col p.board mode, q ∈ succsForTarget h pc p (toPt o) mov) ∨
          q ∈ epSuccs h pc p (toPt o))) ∨
      (mode = .all ∧ ∃ ct, p.toMove = rightColor ct ∧ canCastle p ct = true ∧ q = castleSucc h p ct) := by
  rw [mem_generateMoves, mem_generateCastlingMoves]
  apply or_congr_left
  constructor
  · rintro ⟨pt, pc, hon, hpc, hcol, hin⟩
    refine ⟨specOf pt, pc, specOf_inB pt hon, ?_⟩
    rw [toPt_specOf pt hon]
    exact ⟨hpc, hcol, hin⟩
  · rintro ⟨o, pc, ho, hpc, hcol, hin⟩
    exact ⟨toPt o, pc, toPt_onBoard o ho, hpc, hcol, hin⟩

theorem generateMoves_sound_mode (p : Pos) (wf : WFp p) (mode : Mode) :
    ∀ q ∈ generateMoves h p mode,
      Spec.legal (abs p) (moveOf q) = true ∧ abs q = Spec.apply (abs p) (moveOf q) ∧
      (mode = .caps → isCaptureSpec (abs p) (moveOf q) = true) := by
  intro q hq
  rcases (mem_generateMoves_toPt h p mode q).mp hq with
    ⟨o, pc, ho, hpc, hcol, ⟨mov, hmov, hqm⟩ | hqe⟩ | ⟨rfl, ct, hside, hcan, rfl⟩
  · obtain ⟨_, hdst, -, -, hl, ha⟩ := succsForTarget_sound h p wf o ho pc hpc hcol mov (getMoves_subset_all _ _ _ _ mode mov hmov) q hqm
    refine ⟨hl, ha, ?_⟩
    rintro rfl
    -- a target of capture-only mode is an occupied all-moves target
    obtain ⟨hmall, hne⟩ := (mem_getMoves_caps pc _ _ p.board mov).mp hmov
    have hmon := (getMoves_spec p wf.ring wf.inner o ho pc hpc mov).mp hmall
    unfold isCaptureSpec
    rw [hdst, isSome_at_specOf p wf.inner mov hmon.1, hne]
    rfl
  · obtain ⟨_, hep, hl, ha⟩ := epSuccs_sound h p wf o ho pc hpc hcol q hqe
    exact ⟨hl, ha, fun _ => by unfold isCaptureSpec; rw [hep]; simp⟩
  · rw [moveOf_castleSucc]
    exact ⟨(castle_sound h p wf ct hside hcan).1, (castle_sound h p wf ct hside hcan).2, fun e => by cases e⟩

/-- **C01 soundness + C02 on the model**: for every well-formed position, every successor of the
    full move generation carries a move that is legal under the specification's rules, and its
    placement, side to move, castling rights and en passant target are exactly those of the
    specification's `apply` of that move -/
theorem generateMoves_sound (p : Pos) (wf : WFp p) :
    ∀ q ∈ generateMoves h p .all,
      Spec.legal (abs p) (moveOf q) = true ∧ abs q = Spec.apply (abs p) (moveOf q) :=
  fun q hq => ⟨(generateMoves_sound_mode h p wf .all q hq).1, (generateMoves_sound_mode h p wf .all q hq).2.1⟩

end Walleye
