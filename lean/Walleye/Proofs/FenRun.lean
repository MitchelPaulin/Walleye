/- `from_fen` run once.  First its stages by name and the inversion every property of the loader rests on
   (`fromFen_ok_iff`); then the invariant of the row reader — ring in place, key accumulated so far =
   placement key of what has been written — which makes every loaded position key-exact, whatever the
   hasher and whatever the string (`fromFen_good`; C05, C15). -/
import Walleye.Proofs.Succ
import Walleye.Model.Fen
namespace Walleye
open Str

/-- the `match o with | .ok a => f a | .err e => .err e | .panic => .panic` that the model writes out at
    every stage; naming it lets one lemma do each walk through the three outcomes -/
def Outcome.bind {α β : Type} (o : Outcome α) (f : α → Outcome β) : Outcome β :=
  match o with
  | .err e => .err e
  | .panic => .panic
  | .ok a => f a

theorem Outcome.bind_eq_ok {α β : Type} {o : Outcome α} {f : α → Outcome β} {b : β} :
    o.bind f = .ok b ↔ ∃ a, o = .ok a ∧ f a = .ok b := by
  cases o with
  | ok a => exact ⟨fun hc => ⟨a, rfl, hc⟩, fun ⟨_, e, hc⟩ => by injection e with e; rw [e]; exact hc⟩
  | err e => exact ⟨nofun, fun ⟨_, e, _⟩ => nomatch e⟩
  | panic => exact ⟨nofun, fun ⟨_, e, _⟩ => nomatch e⟩

theorem Outcome.bind_ne_panic {α β : Type} {o : Outcome α} {f : α → Outcome β} (ho : o ≠ .panic)
    (hf : ∀ a, f a ≠ .panic) : o.bind f ≠ .panic := by
  cases o with
  | ok a => exact hf a
  | err e => nofun
  | panic => exact absurd rfl ho

/-- the `[]` branch of the inner match of `splitOn`, marked unreachable in Model/Str.lean, is never taken -/
theorem splitOn_ne_nil (sep : Char) (s : List Char) : splitOn sep s ≠ [] := by
  induction s with
  | nil => simp [splitOn]
  | cons c cs ih =>
    unfold splitOn
    split
    · simp
    · split <;> simp

theorem splitOn_nosep (sep : Char) (a : List Char) (h : sep ∉ a) : splitOn sep a = [a] := by
  induction a with
  | nil => rfl
  | cons c cs ih =>
    have hc : c ≠ sep := fun e => h (by simp [e])
    have hcs : sep ∉ cs := fun e => h (by simp [e])
    unfold splitOn
    rw [if_neg hc, ih hcs]

theorem splitOn_append (sep : Char) (a b : List Char) (h : sep ∉ a) :
    splitOn sep (a ++ sep :: b) = a :: splitOn sep b := by
  induction a with
  | nil => simp [splitOn]
  | cons c cs ih =>
    have hc : c ≠ sep := fun e => h (by simp [e])
    have hcs : sep ∉ cs := fun e => h (by simp [e])
    simp only [List.cons_append]
    rw [splitOn, if_neg hc, ih hcs]

theorem trimNewline_id (s : List Char) (h : ∀ c, s.getLast? = some c → c ≠ '\n') : trimNewline s = s := by
  unfold trimNewline
  cases hr : s.reverse with
  | nil => rfl
  | cons c rest =>
    have hl : s.getLast? = some c := by
      rw [List.getLast?_eq_head?_reverse, hr]; rfl
    have := h c hl
    split
    · rename_i heq; injection heq with e _; exact absurd e this
    · rename_i heq; injection heq with e _; exact absurd e this
    · rfl

/-- the last character of a text is that of its last field (`x` the separator) -/
theorem getLast?_field (a : List Char) (x : Char) {b : List Char} (hb : b ≠ []) : (a ++ x :: b).getLast? = b.getLast? := by
  obtain ⟨y, ys, rfl⟩ := List.exists_cons_of_ne_nil hb
  rw [List.getLast?_append, List.getLast?_cons_cons]
  cases hl : (y :: ys).getLast? with
  | none => simp at hl
  | some c => rfl

def fenGap (a : FenAcc) (n : Nat) : FenAcc :=
  { a with board := (List.range n).foldl (fun b i => b.set a.row (a.col + i) .empty) a.board, col := a.col + n }

theorem fenGap_get (a : FenAcc) (n : Nat) (hr : a.row < 12) (hc : a.col + n ≤ 12) :
    (∀ j, j < n → (fenGap a n).board.get a.row (a.col + j) = .empty) ∧
    (∀ r c, ¬ (r = a.row ∧ a.col ≤ c ∧ c < a.col + n) → (fenGap a n).board.get r c = a.board.get r c) := by
  unfold fenGap
  induction n with
  | zero => exact ⟨fun j hj => by omega, fun r c _ => rfl⟩
  | succ k ih =>
    obtain ⟨i1, i2⟩ := ih (by omega)
    simp only at i1 i2 ⊢
    rw [List.range_succ, List.foldl_append]
    simp only [List.foldl_cons, List.foldl_nil]
    constructor
    · intro j hj
      by_cases e : j = k
      · subst e; exact Board.get_set_eq _ _ _ _ hr (by omega)
      · rw [Board.get_set_ne _ _ _ _ _ _ (by omega)]; exact i1 j (by omega)
    · intro r c hn
      rw [Board.get_set_ne _ _ _ _ _ _ (by omega)]
      exact i2 r c (by omega)

def fenPut (h : Hasher) (a : FenAcc) (piece : Piece) : FenAcc :=
  let b := a.board.set a.row a.col (.full piece)
  let key := a.key ^^^ h.piece piece ⟨a.row, a.col⟩
  let a := { a with board := b, key := key, col := a.col + 1 }
  if piece.kind = .king then
    (match piece.color with
     | .white => { a with wk := ⟨a.row, a.col - 1⟩ }
     | .black => { a with bk := ⟨a.row, a.col - 1⟩ })
  else a

theorem fenPut_eq (h : Hasher) (a : FenAcc) (p : Piece) :
    fenPut h a p =
      { board := a.board.set a.row a.col (.full p), row := a.row, col := a.col + 1,
        wk := if p = ⟨.white, .king⟩ then ⟨a.row, a.col⟩ else a.wk,
        bk := if p = ⟨.black, .king⟩ then ⟨a.row, a.col⟩ else a.bk,
        key := a.key ^^^ h.piece p ⟨a.row, a.col⟩ } := by
  obtain ⟨c, k⟩ := p
  cases c <;> cases k <;> rfl

/-- a literal copy of `fenChar` (Model/Fen.lean) with the two accumulator updates named: edit it with the model -/
theorem fenChar_eq (h : Hasher) (a : FenAcc) (sq : Char) :
    fenChar h a sq =
      if a.row ≥ Gen.boardEnd ∨ a.col ≥ Gen.boardEnd then .err "Too many squares specified for board"
      else if isDigit sq then
        if digitVal sq + a.col > Gen.boardEnd then .err "Could not parse fen string: Index out of bounds"
        else .ok (fenGap a (digitVal sq))
      else match Gen.fenPieces.lookup sq with
        | none => .err "Could not parse fen string: Invalid character found"
        | some piece => .ok (fenPut h a piece) := rfl

theorem fenChar_ok_iff (h : Hasher) (a a' : FenAcc) (sq : Char) :
    fenChar h a sq = .ok a' ↔
      (a.row < Gen.boardEnd ∧ a.col < Gen.boardEnd) ∧
      (isDigit sq = true ∧ digitVal sq + a.col ≤ Gen.boardEnd ∧ a' = fenGap a (digitVal sq) ∨
       isDigit sq = false ∧ ∃ piece, Gen.fenPieces.lookup sq = some piece ∧ a' = fenPut h a piece) := by
  rw [fenChar_eq]
  constructor
  · intro hc
    split at hc
    · cases hc
    · rename_i hb
      refine ⟨by omega, ?_⟩
      split at hc
      · rename_i hd
        split at hc
        · cases hc
        · rename_i hn
          injection hc with hc
          exact Or.inl ⟨hd, by omega, hc.symm⟩
      · rename_i hd
        split at hc
        · cases hc
        · rename_i piece hl
          injection hc with hc
          exact Or.inr ⟨Bool.eq_false_iff.mpr hd, piece, hl, hc.symm⟩
  · rintro ⟨hb, ⟨hd, hn, rfl⟩ | ⟨hd, piece, hl, rfl⟩⟩
    · rw [if_neg (by omega), if_pos hd, if_neg (by omega)]
    · rw [if_neg (by omega), hd, hl]; rfl

theorem fenChar_total (h : Hasher) (a : FenAcc) (c : Char) : fenChar h a c ≠ .panic := by
  rw [fenChar_eq]
  split
  · nofun
  · split
    · split <;> nofun
    · split <;> nofun

theorem fenRowChars_cons (h : Hasher) (a : FenAcc) (c : Char) (cs : List Char) :
    fenRowChars h a (c :: cs) = (fenChar h a c).bind fun a' => fenRowChars h a' cs := by
  rw [fenRowChars]; cases fenChar h a c <;> rfl

theorem fenRows_cons (h : Hasher) (a : FenAcc) (r : List Char) (rs : List (List Char)) :
    fenRows h a (r :: rs) = (fenRowChars h a r).bind fun a' =>
      if a'.col ≠ Gen.boardEnd then .err "Could not parse fen string: Complete row was not specified"
      else fenRows h { a' with row := a'.row + 1, col := Gen.boardStart } rs := by
  rw [fenRows]; cases fenRowChars h a r <;> rfl

theorem fenRowChars_cons_ok (h : Hasher) (a a' : FenAcc) (c : Char) (cs : List Char) :
    fenRowChars h a (c :: cs) = .ok a' ↔ ∃ a1, fenChar h a c = .ok a1 ∧ fenRowChars h a1 cs = .ok a' := by
  rw [fenRowChars_cons]; exact Outcome.bind_eq_ok

theorem fenRows_cons_ok (h : Hasher) (a a' : FenAcc) (r : List Char) (rs : List (List Char)) :
    fenRows h a (r :: rs) = .ok a' ↔
      ∃ a1, fenRowChars h a r = .ok a1 ∧ a1.col = Gen.boardEnd ∧
        fenRows h { a1 with row := a1.row + 1, col := Gen.boardStart } rs = .ok a' := by
  rw [fenRows_cons, Outcome.bind_eq_ok]
  refine exists_congr fun a1 => and_congr_right fun _ => ?_
  split
  · rename_i hcol; exact ⟨nofun, fun ⟨e, _⟩ => absurd e hcol⟩
  · rename_i hcol; exact ⟨fun hc => ⟨Decidable.not_not.mp hcol, hc⟩, fun ⟨_, hc⟩ => hc⟩

theorem fenRowChars_total (h : Hasher) (l : List Char) : ∀ a, fenRowChars h a l ≠ .panic := by
  induction l with
  | nil => intro a; nofun
  | cons c cs ih =>
    intro a
    rw [fenRowChars_cons]
    exact Outcome.bind_ne_panic (fenChar_total h a c) ih

theorem fenRows_total (h : Hasher) (rows : List (List Char)) : ∀ a, fenRows h a rows ≠ .panic := by
  induction rows with
  | nil => intro a; nofun
  | cons r rs ih =>
    intro a
    rw [fenRows_cons]
    refine Outcome.bind_ne_panic (fenRowChars_total h r a) fun a' => ?_
    split
    · nofun
    · exact ih _

def fenSide (side : List Char) : Option Color :=
  if side = ['w'] then some .white else if side = ['b'] then some .black else none

def fenEp (epStr : List Char) : Outcome (Option Point) :=
  if byteLen epStr ≠ 2 then
    (if epStr ≠ ['-'] then .err "Could not parse fen string: En passant string not valid" else .ok none)
  else match pointFromStr epStr with
    | .ok pt => .ok (some pt)
    | _ => .ok none

def fenInit (h : Hasher) (c : Color) : FenAcc :=
  ⟨emptyBoard, Gen.boardStart, Gen.boardStart, ⟨0, 0⟩, ⟨0, 0⟩, if c = .black then h.side else 0⟩

def loadedPos (h : Hasher) (a : FenAcc) (side : Color) (rights : List Char) (ep : Option Point) : Pos :=
  let key := match ep with
    | some pt => a.key ^^^ h.epFile pt.col
    | none => a.key
  let wks := rights.contains 'K'
  let wqs := rights.contains 'Q'
  let bks := rights.contains 'k'
  let bqs := rights.contains 'q'
  let key := if wks then key ^^^ h.castle .wks else key
  let key := if wqs then key ^^^ h.castle .wqs else key
  let key := if bks then key ^^^ h.castle .bks else key
  let key := if bqs then key ^^^ h.castle .bqs else key
  { board := a.board, toMove := side, ep := ep, wk := a.wk, bk := a.bk,
    wks := wks, wqs := wqs, bks := bks, bqs := bqs, oh := 0,
    lastMove := none, promo := none, key := key }

/-- a literal copy of `fromFen` (Model/Fen.lean) with side, en passant field, start accumulator and final
    record named: edit it with the model -/
theorem fromFen_eq (h : Hasher) (s : List Char) :
    fromFen h s =
      match splitOn ' ' (trimNewline s) with
      | [pl, side, cas, epS, half, full] =>
        match fenSide side with
        | none => .err "Could not parse fen string: Next player to move was not provided"
        | some c =>
          if (parseUnsigned 32 half).isNone then .err "Could not parse fen string: Invalid half move value"
          else if (parseUnsigned 32 full).isNone then .err "Could not parse fen string: Invalid full move value"
          else if (splitOn '/' pl).length ≠ 8 then
            .err "Could not parse fen string: Invalid number of rows provided, 8 expected"
          else match fenRows h (fenInit h c) (splitOn '/' pl) with
            | .err e => .err e
            | .panic => .panic
            | .ok a =>
              match fenEp epS with
              | .err e => .err e
              | .panic => .panic
              | .ok ep => .ok (loadedPos h a c cas ep)
      | _ => .err "Could not parse fen string: Invalid fen string" := rfl

theorem fenEp_total (s : List Char) : fenEp s ≠ .panic := by
  unfold fenEp
  split
  · split <;> nofun
  · split <;> nofun

/-- the checks `from_fen` makes on the six fields of the line `s` before it reads the rows -/
structure FenFields (s pl side cas epS half full : List Char) (c : Color) : Prop where
  fields : splitOn ' ' (trimNewline s) = [pl, side, cas, epS, half, full]
  mover : fenSide side = some c
  halfOK : (parseUnsigned 32 half).isNone = false
  fullOK : (parseUnsigned 32 full).isNone = false
  eight : (splitOn '/' pl).length = 8

theorem fromFen_run (h : Hasher) (s : List Char) :
    (∃ e, fromFen h s = .err e) ∨
    ∃ pl side cas epS half full c, FenFields s pl side cas epS half full c ∧
      fromFen h s = (fenRows h (fenInit h c) (splitOn '/' pl)).bind fun a =>
        (fenEp epS).bind fun ep => .ok (loadedPos h a c cas ep) := by
  generalize hr : fromFen h s = r
  rw [fromFen_eq] at hr
  split at hr
  · rename_i pl side cas epS half full hsp
    split at hr
    · exact .inl ⟨_, hr.symm⟩
    · rename_i c hside
      split at hr
      · exact .inl ⟨_, hr.symm⟩
      · rename_i hh
        split at hr
        · exact .inl ⟨_, hr.symm⟩
        · rename_i hf
          split at hr
          · exact .inl ⟨_, hr.symm⟩
          · rename_i hl
            refine .inr ⟨pl, side, cas, epS, half, full, c, ⟨hsp, hside, Bool.eq_false_iff.mpr hh,
              Bool.eq_false_iff.mpr hf, Decidable.not_not.mp hl⟩, ?_⟩
            rw [← hr]
            cases fenRows h (fenInit h c) (splitOn '/' pl) with
            | err e => rfl
            | panic => rfl
            | ok a => cases fenEp epS <;> rfl
  · exact .inl ⟨_, hr.symm⟩

theorem fromFen_ok_iff (h : Hasher) (s : List Char) (p : Pos) :
    fromFen h s = .ok p ↔
      ∃ pl side cas epS half full c a ep, FenFields s pl side cas epS half full c ∧
        fenRows h (fenInit h c) (splitOn '/' pl) = .ok a ∧ fenEp epS = .ok ep ∧ p = loadedPos h a c cas ep := by
  constructor
  · intro hc
    obtain ⟨e, he⟩ | ⟨pl, side, cas, epS, half, full, c, hf, heq⟩ := fromFen_run h s
    · rw [he] at hc; cases hc
    · rw [heq] at hc
      obtain ⟨a, hrows, hc⟩ := Outcome.bind_eq_ok.mp hc
      obtain ⟨ep, hep, hc⟩ := Outcome.bind_eq_ok.mp hc
      injection hc with hc
      exact ⟨pl, side, cas, epS, half, full, c, a, ep, hf, hrows, hep, hc.symm⟩
  · rintro ⟨pl, side, cas, epS, half, full, c, a, ep, hf, hrows, hep, rfl⟩
    rw [fromFen_eq]
    simp only [hf.fields, hf.mover, hf.halfOK, hf.fullOK, hf.eight, hrows, hep, Bool.false_eq_true, if_false, ne_eq,
      not_true_eq_false]

/-- invariant of the row reader: cells at or after the cursor are still sentinels, the ring is intact, the key
    accumulated so far is `k0` xor the placement key of what has been written -/
structure FInv (h : Hasher) (k0 : UInt64) (a : FenAcc) : Prop where
  ahead : ∀ r c, (a.row < r ∨ (r = a.row ∧ a.col ≤ c)) → a.board.get r c = .boundary
  ring : RingOK a.board
  key : a.key = k0 ^^^ placementKey h a.board
  lo : 2 ≤ a.row ∧ 2 ≤ a.col

theorem default_get (r c : Nat) : (default : Board).get r c = .boundary := by
  unfold Board.get
  split
  · have : (default : Board).cells = Array.replicate 144 Square.boundary := rfl
    simp [this]
  · rfl

theorem placementKey_default (h : Hasher) : placementKey h (default : Board) = 0 := by
  unfold placementKey
  have : xorFold (fun pt => sqKey h ((default : Board).get pt.row pt.col) pt) boardCoords =
      xorFold (fun _ => (0 : UInt64)) boardCoords :=
    xorFold_congr _ _ _ (fun pt _ => by rw [default_get]; rfl)
  rw [this]
  decide

theorem finv_init (h : Hasher) (c : Color) : FInv h (fenInit h c).key (fenInit h c) := by
  refine ⟨fun r c _ => default_get r c, fun r c hne => absurd (default_get r c) hne, ?_, ⟨Nat.le_refl 2, Nat.le_refl 2⟩⟩
  show _ = _ ^^^ placementKey h (default : Board)
  rw [placementKey_default]; simp

/-- writing one cell at the cursor (which still holds a sentinel) -/
theorem finv_write (h : Hasher) (k0 : UInt64) (a : FenAcc) (v : Square) (hi : FInv h k0 a)
    (hb : a.row < Gen.boardEnd ∧ a.col < Gen.boardEnd) :
    RingOK (a.board.set a.row a.col v) ∧
    placementKey h (a.board.set a.row a.col v) = placementKey h a.board ^^^ sqKey h v ⟨a.row, a.col⟩ ∧
    (∀ r c, (a.row < r ∨ (r = a.row ∧ a.col + 1 ≤ c)) → (a.board.set a.row a.col v).get r c = .boundary) := by
  have hon : OnBoard ⟨a.row, a.col⟩ := by
    have := hi.lo; simp only [Gen.boardEnd] at hb; unfold OnBoard; simp only; omega
  refine ⟨ringOK_set _ ⟨a.row, a.col⟩ v hi.ring hon, ?_, ?_⟩
  · have := placementKey_set h a.board ⟨a.row, a.col⟩ v hon
    simp only at this
    rw [this, hi.ahead a.row a.col (Or.inr ⟨rfl, Nat.le_refl _⟩)]
    simp [sqKey]
  · intro r c hrc
    rw [Board.get_set_ne]
    · exact hi.ahead r c (by omega)
    · omega

theorem finv_gap (h : Hasher) (k0 : UInt64) (n : Nat) :
    ∀ (a : FenAcc), FInv h k0 a → a.row < Gen.boardEnd → n + a.col ≤ Gen.boardEnd → FInv h k0 (fenGap a n) := by
  induction n with
  | zero => intro a hi _ _; exact hi
  | succ k ih =>
    intro a hi hr hc
    have hk := ih a hi hr (by omega)
    unfold fenGap at hk ⊢
    rw [List.range_succ, List.foldl_append]
    simp only [List.foldl_cons, List.foldl_nil]
    obtain ⟨w1, w2, w3⟩ := finv_write h k0 _ .empty hk ⟨hr, by simp only; omega⟩
    simp only at w1 w2 w3
    refine ⟨?_, w1, ?_, ?_⟩
    · intro r c hrc; exact w3 r c (by simp only at hrc ⊢; omega)
    · have hkk := hk.key
      simp only at hkk ⊢
      rw [w2, hkk]; simp [sqKey]
    · have := hi.lo; simp only; omega

theorem finv_fenChar (h : Hasher) (k0 : UInt64) (a a' : FenAcc) (c : Char) (hi : FInv h k0 a)
    (hc : fenChar h a c = .ok a') : FInv h k0 a' ∧ a'.row = a.row := by
  obtain ⟨hb, ⟨_, hn, rfl⟩ | ⟨_, piece, _, rfl⟩⟩ := (fenChar_ok_iff h a a' c).mp hc
  · exact ⟨finv_gap h k0 _ a hi hb.1 hn, rfl⟩
  · obtain ⟨w1, w2, w3⟩ := finv_write h k0 a (.full piece) hi hb
    rw [fenPut_eq]
    refine ⟨⟨w3, w1, ?_, by have := hi.lo; simp only; omega⟩, rfl⟩
    simp only; rw [w2, hi.key, UInt64.xor_assoc]; rfl

theorem finv_rowChars (h : Hasher) (k0 : UInt64) (l : List Char) :
    ∀ (a a' : FenAcc), FInv h k0 a → fenRowChars h a l = .ok a' → FInv h k0 a' ∧ a'.row = a.row := by
  induction l with
  | nil => intro a a' hi hc; cases hc; exact ⟨hi, rfl⟩
  | cons c cs ih =>
    intro a a' hi hc
    obtain ⟨a1, h1, h2⟩ := (fenRowChars_cons_ok h a a' c cs).mp hc
    obtain ⟨i1, r1⟩ := finv_fenChar h k0 a a1 c hi h1
    obtain ⟨i2, r2⟩ := ih a1 a' i1 h2
    exact ⟨i2, r2.trans r1⟩

theorem finv_nextRow (h : Hasher) (k0 : UInt64) (a : FenAcc) (hi : FInv h k0 a) :
    FInv h k0 { a with row := a.row + 1, col := Gen.boardStart } :=
  ⟨fun r c hrc => hi.ahead r c (by simp only at hrc; omega), hi.ring, hi.key,
    by have := hi.lo; simp only [Gen.boardStart]; omega⟩

theorem finv_rows (h : Hasher) (k0 : UInt64) (rows : List (List Char)) :
    ∀ (a a' : FenAcc), FInv h k0 a → fenRows h a rows = .ok a' → FInv h k0 a' := by
  induction rows with
  | nil => intro a a' hi hc; cases hc; exact hi
  | cons r rs ih =>
    intro a a' hi hc
    obtain ⟨a1, h1, _, h2⟩ := (fenRows_cons_ok h a a' r rs).mp hc
    obtain ⟨i1, _⟩ := finv_rowChars h k0 r a a1 hi h1
    exact ih _ a' (finv_nextRow h k0 a1 i1) h2

theorem ite_xor_rightKey (h : Hasher) (ct : CastlingType) (on : Bool) (k : UInt64) :
    (if on = true then k ^^^ h.castle ct else k) = k ^^^ rightKey h ct on := by
  cases on <;> simp [rightKey]

theorem epmatch_xor (h : Hasher) (k : UInt64) (ep : Option Point) :
    (match ep with | some pt => k ^^^ h.epFile pt.col | none => k) = k ^^^ epKey h ep := by
  cases ep <;> simp [epKey]

theorem ite_eq_sideKey (h : Hasher) (c : Color) : (if c = Color.black then h.side else 0) = sideKey h c := by
  cases c <;> simp [sideKey]

/-- the loader adds the en passant word before the four castling words; the scratch key has it last -/
theorem loadedPos_keyOK (h : Hasher) (a : FenAcc) (side : Color) (rights : List Char) (ep : Option Point)
    (hkey : a.key = (if side = .black then h.side else 0) ^^^ placementKey h a.board) :
    KeyOK h (loadedPos h a side rights ep) := by
  unfold KeyOK scratchKey loadedPos
  dsimp only
  rw [hkey, ite_eq_sideKey, epmatch_xor]
  simp only [ite_xor_rightKey]
  rw [UInt64.xor_comm (sideKey h side), xor_right_comm' _ (epKey h ep), xor_right_comm' _ (epKey h ep),
    xor_right_comm' _ (epKey h ep), xor_right_comm' _ (epKey h ep)]

theorem fromFen_good {h : Hasher} {s : List Char} {p : Pos} (hc : fromFen h s = .ok p) : Good h p := by
  obtain ⟨_, _, cas, _, _, _, c, a, ep, _, hrows, _, rfl⟩ := (fromFen_ok_iff h s p).mp hc
  have hi := finv_rows h _ _ _ a (finv_init h _) hrows
  exact ⟨hi.ring, loadedPos_keyOK h a c cas ep hi.key⟩

theorem fromFen_inv (h : Hasher) (s : List Char) (p : Pos) (hc : fromFen h s = .ok p) :
    KeyOK h p ∧ RingOK p.board :=
  ⟨(fromFen_good hc).2, (fromFen_good hc).1⟩

end Walleye
