/-
  C07 for the boards: the improvements as (board, info line) pairs are an observation of the reports
  in the sense of Prefix.lean (`ObsOK`).  `Res.stB`, `setEB`, `Res.mapStB`, `LaterB` are `Res.st`,
  `setE`, `Res.mapSt`, `Later` under a second name, each by `rfl` (`Res.stB_eq_st`, `laterB_iff_later`):
  they are the names in which the statements of Props/C07 about boards are written.
-/
import Walleye.Proofs.Prefix
namespace Walleye

variable {P O : Type}

/-- the improvements reported so far, each WITH the board handed over for it: a `sent m` immediately
    followed by an `info i` is the pair (m, i); a `sent` that is not followed by an `info` (the
    fall-back board) is no improvement -/
def pairsAux : Option P → List (Report P) → List (P × Info)
  | _, [] => []
  | _, .sent m :: rest => pairsAux (some m) rest
  | some m, .info i :: rest => (m, i) :: pairsAux none rest
  | none, .info _ :: rest => pairsAux none rest

def infosOfB (rs : Array (Report P)) : List (P × Info) := pairsAux none rs.toList

def waitingBoard : Option P → List (Report P) → Option P
  | o, [] => o
  | _, .sent m :: rest => waitingBoard (some m) rest
  | _, .info _ :: rest => waitingBoard none rest

theorem pairsAux_append : ∀ (l : List (Report P)) (o : Option P) (l' : List (Report P)),
    pairsAux o (l ++ l') = pairsAux o l ++ pairsAux (waitingBoard o l) l' := by
  intro l
  induction l with
  | nil => intro o l'; cases o <;> rfl
  | cons x xs ih =>
    intro o l'
    cases x with
    | sent m => simp only [List.cons_append, pairsAux, waitingBoard]; exact ih _ _
    | info i => cases o <;> simp only [List.cons_append, pairsAux, waitingBoard, ih]

theorem infosOf_push_sentB (rs : Array (Report P)) (p : P) : infosOfB (rs.push (.sent p)) = infosOfB rs := by
  unfold infosOfB; rw [Array.toList_push, pairsAux_append]; simp only [pairsAux, List.append_nil]

theorem infosOf_push_infoB (rs : Array (Report P)) (i : Info) : infosOfB rs <+: infosOfB (rs.push (.info i)) := by
  unfold infosOfB; rw [Array.toList_push, pairsAux_append]; exact List.prefix_append _ _

theorem infosOfB_ok : ObsOK (infosOfB (P := P)) := ⟨infosOf_push_sentB, infosOf_push_infoB⟩

def SS.pairs (s : SS P O) : List (P × Info) := infosOfB s.reports

def Res.stB {σ α : Type} : Res σ α → σ
  | .ok _ s => s
  | .panic s => s
  | .fuel s => s

def setEB (x : Option Nat) (s : SS P O) : SS P O := { s with expiry := x }

def Res.mapStB {σ α : Type} (f : σ → σ) : Res σ α → Res σ α
  | .ok a s => .ok a (f s)
  | .panic s => .panic (f s)
  | .fuel s => .fuel (f s)

def LaterB (k : Nat) : Option Nat → Prop
  | none => True
  | some k' => k ≤ k'

theorem Res.stB_eq_st {σ α : Type} (r : Res σ α) : r.stB = r.st := rfl

theorem laterB_iff_later {k : Nat} {e : Option Nat} : LaterB k e ↔ Later k e := Iff.rfl

theorem bind_st_okB {α β : Type} {m : M (SS P O) α} {f : α → M (SS P O) β} {s s' : SS P O} {a : α}
    (h : m s = .ok a s') : ((m >>= f) s) = f a s' := bind_of_ok h

/-! `AgnB`: `Agn` with the pairs for the observation (`inf` is `ho` at `obs := infosOfB`, once `SS.pairs` is
    unfolded), in the second names -/

structure AgnB {α : Type} (m : M (SS P O) α) : Prop where
  comm : ∀ s x, m (setEB x s) = (m s).mapStB (setEB x)
  q : ∀ s, (m s).stB.queries = s.queries
  inf : ∀ s, (m s).stB.pairs = s.pairs

theorem AgnB.expiry {α : Type} {m : M (SS P O) α} (h : AgnB m) (s : SS P O) : (m s).stB.expiry = s.expiry :=
  expiry_of_comm h.comm s

end Walleye
