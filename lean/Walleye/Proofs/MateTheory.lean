/-
  What a mate-band minimax value MEANS (C11): for every game with a bounded evaluation, every
  repetition table and every depth, a value of `Spec.negamax` above the evaluation bound is exactly
  MATE − ply − (2n − 1) for some n ≥ 1 and the side to move can FORCE checkmate in at most n of its
  own moves (`Win n`); a value below minus the bound is exactly −(MATE − ply − 2k) and the side to
  move is checkmated now (k = 0) or is mated within k opposing moves whatever it plays (`Lose k`).
  Draw scores (repetition, stalemate) and quiescence values never enter the bands, so neither a
  stalemate nor a repetition is ever counted as a mate.
-/
import Walleye.Proofs.NegamaxRange
namespace Walleye
open Spec DrawTable

variable {P : Type} (g : Game P)

def Mated (p : P) : Prop := g.gen p .all = [] ∧ g.inCheck p = true

def Win : Nat → P → Prop
  | 0, _ => False
  | n + 1, p => ∃ m ∈ g.gen p .all, Mated g m ∨ (g.gen m .all ≠ [] ∧ ∀ r ∈ g.gen m .all, Win n r)

def Lose (k : Nat) (p : P) : Prop :=
  Mated g p ∨ (g.gen p .all ≠ [] ∧ ∀ m ∈ g.gen p .all, Win g k m)

theorem win_succ (n : Nat) (p : P) : Win g (n + 1) p ↔ ∃ m ∈ g.gen p .all, Lose g n m := by
  simp only [Win, Lose]

theorem lose_zero (p : P) : Lose g 0 p ↔ Mated g p := by
  refine ⟨fun h => h.resolve_right fun ⟨hne, hall⟩ => ?_, Or.inl⟩
  obtain ⟨x, hx⟩ := List.exists_mem_of_ne_nil _ hne
  exact hall x hx

theorem win_mono_le {n n' : Nat} (h : n ≤ n') (p : P) (hw : Win g n p) : Win g n' p := by
  induction n generalizing n' p with
  | zero => cases hw
  | succ k ih =>
    obtain ⟨k', rfl⟩ : ∃ k', n' = k' + 1 := ⟨n' - 1, by omega⟩
    obtain ⟨m, hm, hl⟩ := hw
    exact ⟨m, hm, hl.imp_right fun ⟨hne, hall⟩ => ⟨hne, fun r hr => ih (by omega) r (hall r hr)⟩⟩

theorem lose_mono_le {k k' : Nat} (h : k ≤ k') (p : P) (hl : Lose g k p) : Lose g k' p :=
  hl.imp_right fun ⟨hne, hall⟩ => ⟨hne, fun m hm => win_mono_le g h m (hall m hm)⟩

theorem band_vacuous {E : Nat} {v : Int} {A B : Prop} (h : -(E : Int) ≤ v ∧ v ≤ E) :
    ((E : Int) < v → A) ∧ (v < -(E : Int) → B) :=
  ⟨fun h' => by omega, fun h' => by omega⟩

/-- one ply of mate propagation, from the values `f x` of the moves (nodes at `ply + 1`) to the value
    `v` of the node.  When `v` is a loss the slowest mate (`y`) decides. -/
theorem mate_step (E ply : Nat) (f : P → Int) (l : List P) (v : Int) (y : P) (hy : y ∈ l) (e : v = - f y)
    (hle : ∀ x ∈ l, - f x ≤ v)
    (hf : ∀ x, ((E : Int) < f x →
        ∃ n : Nat, 1 ≤ n ∧ f x = Gen.mateScore - ((ply + 1 : Nat) : Int) - (2 * n - 1) ∧ Win g n x) ∧
      (f x < -(E : Int) → ∃ k : Nat, f x = -(Gen.mateScore - ((ply + 1 : Nat) : Int) - 2 * k) ∧ Lose g k x)) :
    ((E : Int) < v → ∃ k : Nat, v = Gen.mateScore - ply - (2 * ((k + 1 : Nat) : Int) - 1) ∧ ∃ m ∈ l, Lose g k m) ∧
    (v < -(E : Int) → ∃ n : Nat, 1 ≤ n ∧ v = -(Gen.mateScore - ply - 2 * n) ∧ ∀ m ∈ l, Win g n m) := by
  constructor
  · intro hpos
    obtain ⟨k, hk, hlose⟩ := (hf y).2 (by omega)
    exact ⟨k, by omega, y, hy, hlose⟩
  · intro hneg
    obtain ⟨n, hn, hnv, _⟩ := (hf y).1 (by omega)
    refine ⟨n, hn, by omega, fun x hx => ?_⟩
    have := hle x hx
    obtain ⟨nx, _, hnxv, hwin⟩ := (hf x).1 (by omega)
    exact win_mono_le g (by omega) x hwin

theorem negamax_mate_char (E : Nat) (hg : GameOK g E) :
    ∀ (fuel d ply : Nat) (t : DrawTable) (p : P), (E : Int) + ply + fuel < Gen.mateScore →
      ((E : Int) < negamax g fuel d ply t p →
        ∃ n : Nat, 1 ≤ n ∧ negamax g fuel d ply t p = Gen.mateScore - ply - (2 * n - 1) ∧ Win g n p) ∧
      (negamax g fuel d ply t p < -(E : Int) →
        ∃ k : Nat, negamax g fuel d ply t p = -(Gen.mateScore - ply - 2 * k) ∧ Lose g k p) := by
  intro fuel
  induction fuel with
  | zero => intro d ply t p _; exact band_vacuous (hg.evalB p)
  | succ n ih =>
    intro d ply t p hb
    have h0 : -(E : Int) ≤ 0 ∧ (0 : Int) ≤ E := by omega
    obtain ⟨d', t', _, _, h⟩ := negamax_cases g n d ply t p
    rcases h with ⟨_, e⟩ | ⟨_, _, e⟩ | ⟨hgen, hchk, e⟩ | ⟨_, _, e⟩ | ⟨hne, hle, y, hy, e⟩
    · rw [e]; exact band_vacuous h0
    · rw [e]; exact band_vacuous (qval_bound g E hg qFuel p)
    · exact ⟨fun h => by omega, fun _ => ⟨0, by omega, .inl ⟨hgen, hchk⟩⟩⟩
    · rw [e]; exact band_vacuous h0
    · obtain ⟨hw, hl⟩ := mate_step g E ply _ _ _ y hy e hle fun x => ih d' (ply + 1) t' x (by omega)
      refine ⟨fun h => ?_, fun h => ?_⟩
      · obtain ⟨k, hk, hm⟩ := hw h
        exact ⟨k + 1, by omega, hk, (win_succ g k p).mpr hm⟩
      · obtain ⟨k, _, hk, hm⟩ := hl h
        exact ⟨k, hk, .inr ⟨hne, hm⟩⟩

theorem negamax_gt_unless_mated (E : Nat) (hg : GameOK g E) (fuel d ply : Nat) (t : DrawTable) (p : P)
    (hE : (E : Int) + ply + (fuel + 1) < Gen.mateScore) (hnm : ¬ Mated g p) :
    -(Gen.mateScore - ply) < negamax g (fuel + 1) d ply t p := by
  have hr := (negamax_range g E hg (fuel + 1) d ply t p hE).1
  refine Int.not_le.mp fun hle => hnm ?_
  obtain ⟨k, hk, hl⟩ := (negamax_mate_char g E hg (fuel + 1) d ply t p hE).2 (by omega)
  obtain rfl : k = 0 := by omega
  exact (lose_zero g p).mp hl

end Walleye
