/- draw_table.rs as a finite map: lookup/insert/count algebra (C10, C07), and the move loop of
   `play_out_position`, which counts the key after every move text (C04, C10) -/
import Walleye.Model.UciText
namespace Walleye
namespace DrawTable

theorem lookup_insert (t : DrawTable) (k k' : UInt64) (v : Nat) :
    lookup (insert t k v) k' = if k = k' then some v else lookup t k' := by
  induction t with
  | nil =>
    simp only [insert, lookup]
  | cons hd tl ih =>
    obtain ⟨k0, v0⟩ := hd
    simp only [insert]
    by_cases h0 : k0 = k
    · subst h0
      simp only [if_true, lookup]
      by_cases h : k0 = k' <;> simp [h]
    · simp only [h0, if_false, lookup]
      by_cases h1 : k0 = k'
      · subst h1
        have : ¬ k = k0 := fun e => h0 e.symm
        simp [this]
      · simp only [h1, if_false, ih]

theorem count_insert (t : DrawTable) (k k' : UInt64) (v : Nat) :
    count (insert t k v) k' = if k = k' then v else count t k' := by
  unfold count
  rw [lookup_insert]
  by_cases h : k = k' <;> simp [h]

/-- same occurrence counts (entries with count 0 are indistinguishable from absent ones) -/
def TableEq (t t' : DrawTable) : Prop := ∀ k, count t k = count t' k

theorem TableEq.refl (t : DrawTable) : TableEq t t := fun _ => rfl
theorem TableEq.symm {t t' : DrawTable} (h : TableEq t t') : TableEq t' t := fun k => (h k).symm
theorem TableEq.trans {a b c : DrawTable} (h1 : TableEq a b) (h2 : TableEq b c) : TableEq a c :=
  fun k => (h1 k).trans (h2 k)

theorem isThreefold_congr {t t' : DrawTable} (h : TableEq t t') (k : UInt64) : isThreefold t k = isThreefold t' k := by
  unfold isThreefold; rw [h k]

theorem count_add {t t1 : DrawTable} {k : UInt64} (h : add t k = some t1) (k' : UInt64) :
    count t1 k' = count t k' + if k = k' then 1 else 0 := by
  unfold add at h
  simp only at h
  split at h
  · cases h
  · cases h
    rw [count_insert]
    by_cases e : k = k'
    · subst e; rw [if_pos rfl, if_pos rfl]
    · rw [if_neg e, if_neg e]; rfl

theorem add_congr {t t' : DrawTable} (h : TableEq t t') (k : UInt64) :
    TableEq ((t.add k).getD t) ((t'.add k).getD t') := by
  intro k'
  unfold add
  simp only [h k]
  split
  · simp only [Option.getD_none]; exact h k'
  · simp only [Option.getD_some, count_insert, h k']

theorem count_remove_of_pos {t : DrawTable} {k : UInt64} (hpos : 0 < count t k) :
    ∃ t1, remove t k = some t1 ∧ ∀ k', count t1 k' = count t k' - if k = k' then 1 else 0 := by
  unfold remove
  unfold count at hpos
  cases hl : lookup t k with
  | none => simp [hl] at hpos
  | some v =>
    simp only [hl, Option.getD_some] at hpos
    have hv : ¬ v = 0 := by omega
    simp only [hv, if_false]
    refine ⟨_, rfl, fun k' => ?_⟩
    rw [count_insert]
    by_cases h : k = k'
    · subst h; rw [if_pos rfl, if_pos rfl]; unfold count; rw [hl]; rfl
    · rw [if_neg h, if_neg h]; rfl
end DrawTable

theorem playMoves_cons (h : Hasher) (p : Pos) (t : DrawTable) (m : List Char) (ms : List (List Char)) :
    playMoves h p t (m :: ms) =
      (makeMove h p m).bind fun p' => (t.add p'.key).bind fun t' => playMoves h p' t' ms := by
  rw [playMoves]
  cases makeMove h p m with
  | none => rfl
  | some p' => simp only [Option.bind_some]; cases t.add p'.key <;> rfl

theorem playMoves_append (h : Hasher) (p : Pos) (t : DrawTable) (a b : List (List Char)) :
    playMoves h p t (a ++ b) = (playMoves h p t a).bind fun r => playMoves h r.1 r.2 b := by
  induction a generalizing p t with
  | nil => rfl
  | cons m ms ih => simp only [List.cons_append, playMoves_cons, ih, Option.bind_assoc]

end Walleye
