/-
  C04: replaying the text of a generated move with `make_move` gives that move's successor again.
  `makeMove_text` evaluates every string operation on a printed move, leaving the stages on squares
  (`mkRes`); the fields of that are computed stage by stage and compared with the generator's successor of
  each kind (`Obs`; the key follows from `KeyOK` of both).  A legal move is a generated one, hence
  `makeMove_legal`.
-/
import Walleye.Proofs.UciTextFacts
import Walleye.Proofs.MakeMoveKey
import Walleye.Proofs.LegalPres
import Walleye.Proofs.Complete
namespace Walleye
open Str

variable (h : Hasher)

/-- stage B with the substring tests replaced by what they mean -/
def mkB' (b : Pos) (sp ep : Point) : Pos :=
  let b := if sp = ⟨2, 2⟩ ∨ ep = ⟨2, 2⟩ then b.takeAway h .bqs else b
  let b := if sp = ⟨2, 9⟩ ∨ ep = ⟨2, 9⟩ then b.takeAway h .bks else b
  let b := if sp = ⟨9, 2⟩ ∨ ep = ⟨9, 2⟩ then b.takeAway h .wqs else b
  if sp = ⟨9, 9⟩ ∨ ep = ⟨9, 9⟩ then b.takeAway h .wks else b

/-- stage D with the promotion piece read off the move -/
def mkD' (b : Pos) (pr : Option Kind) (ep : Point) : Pos :=
  match pr with
  | some k => { b with key := b.key ^^^ (h.piece ⟨b.toMove, .pawn⟩ ep ^^^ h.piece ⟨b.toMove, k⟩ ep),
                       board := b.board.set ep.row ep.col (.full ⟨b.toMove, k⟩) }
  | none => b

/-- stage E with the four literal strings replaced by the squares they name -/
def mkE' (b : Pos) (sp ep : Point) (pr : Option Kind) : Pos :=
  let tgt := b.board.get ep.row ep.col
  let b :=
    if (sp = ⟨9, 6⟩ ∧ ep = ⟨9, 8⟩ ∧ pr = none) ∧ tgt.isPiece ⟨.white, .king⟩ then b.movePiece h ⟨9, 9⟩ ⟨9, 7⟩
    else if (sp = ⟨9, 6⟩ ∧ ep = ⟨9, 4⟩ ∧ pr = none) ∧ tgt.isPiece ⟨.white, .king⟩ then b.movePiece h ⟨9, 2⟩ ⟨9, 5⟩
    else if (sp = ⟨2, 6⟩ ∧ ep = ⟨2, 8⟩ ∧ pr = none) ∧ tgt.isPiece ⟨.black, .king⟩ then b.movePiece h ⟨2, 9⟩ ⟨2, 7⟩
    else if (sp = ⟨2, 6⟩ ∧ ep = ⟨2, 4⟩ ∧ pr = none) ∧ tgt.isPiece ⟨.black, .king⟩ then b.movePiece h ⟨2, 2⟩ ⟨2, 5⟩
    else b
  b.swapColor h

theorem makeMove_text (p : Pos) (sp ep : Point) (pr : Option Kind) (hsp : OnBoard sp) (hep : OnBoard ep)
    (hpr : pr ∈ promos) (piece : Piece) (hpc : p.board.get sp.row sp.col = .full piece) :
    makeMove h p (uciOf sp ep pr) =
      some (mkE' h (mkD' h ((mkB' h (mkA h (p.unsetEp h) sp ep piece) sp ep).movePiece h sp ep) pr ep) sp ep pr) := by
  obtain ⟨f1, f2, l5⟩ := uciOf_read (pr := pr) hsp hep
  rw [makeMove_eq, f1, f2]
  simp only [parsePoint?_pointDisplay hsp, parsePoint?_pointDisplay hep, unsetEp_board, hpc]
  -- stage B: `['a', '8']` is the text of ⟨2, 2⟩ by evaluation, and so on
  have hB : ∀ b : Pos, mkB h b (uciOf sp ep pr) = mkB' h b sp ep := by
    intro b
    have c1 : contains (uciOf sp ep pr) ['a', '8'] = true ↔ sp = ⟨2, 2⟩ ∨ ep = ⟨2, 2⟩ := contains_uciOf hsp hep (g := ⟨2, 2⟩) (by decide)
    have c2 : contains (uciOf sp ep pr) ['h', '8'] = true ↔ sp = ⟨2, 9⟩ ∨ ep = ⟨2, 9⟩ := contains_uciOf hsp hep (g := ⟨2, 9⟩) (by decide)
    have c3 : contains (uciOf sp ep pr) ['a', '1'] = true ↔ sp = ⟨9, 2⟩ ∨ ep = ⟨9, 2⟩ := contains_uciOf hsp hep (g := ⟨9, 2⟩) (by decide)
    have c4 : contains (uciOf sp ep pr) ['h', '1'] = true ↔ sp = ⟨9, 9⟩ ∨ ep = ⟨9, 9⟩ := contains_uciOf hsp hep (g := ⟨9, 9⟩) (by decide)
    unfold mkB mkB'
    simp only [c1, c2, c3, c4]
  have hD : ∀ b : Pos, mkD h b (uciOf sp ep pr) ep = some (mkD' h b pr ep) := by
    intro b
    unfold mkD mkD'
    cases pr with
    | none => rw [if_neg (fun e => by cases l5.mp e)]
    | some k =>
      rw [if_pos (l5.mpr rfl)]
      have hl := uciOf_letter hsp hep hpr
      cases hx : (uciOf sp ep (some k))[4]? with
      | none => rw [hx] at hl; cases hl
      | some ch =>
        rw [hx] at hl
        simp only [Option.some.inj hl]
  -- stage E: `Gen.wksStr.toList` is the text of ⟨9, 6⟩ ⟨9, 8⟩ by evaluation, and so on
  have hE : ∀ b : Pos, mkE h b (uciOf sp ep pr) ep = mkE' h b sp ep pr := by
    intro b
    have e1 : uciOf sp ep pr = Gen.wksStr.toList ↔ sp = ⟨9, 6⟩ ∧ ep = ⟨9, 8⟩ ∧ pr = none :=
      uciOf_inj hsp hep (f' := ⟨9, 6⟩) (t' := ⟨9, 8⟩) (pr' := none) (by decide) (by decide)
    have e2 : uciOf sp ep pr = Gen.wqsStr.toList ↔ sp = ⟨9, 6⟩ ∧ ep = ⟨9, 4⟩ ∧ pr = none :=
      uciOf_inj hsp hep (f' := ⟨9, 6⟩) (t' := ⟨9, 4⟩) (pr' := none) (by decide) (by decide)
    have e3 : uciOf sp ep pr = Gen.bksStr.toList ↔ sp = ⟨2, 6⟩ ∧ ep = ⟨2, 8⟩ ∧ pr = none :=
      uciOf_inj hsp hep (f' := ⟨2, 6⟩) (t' := ⟨2, 8⟩) (pr' := none) (by decide) (by decide)
    have e4 : uciOf sp ep pr = Gen.bqsStr.toList ↔ sp = ⟨2, 6⟩ ∧ ep = ⟨2, 4⟩ ∧ pr = none :=
      uciOf_inj hsp hep (f' := ⟨2, 6⟩) (t' := ⟨2, 4⟩) (pr' := none) (by decide) (by decide)
    unfold mkE mkE'
    simp only [e1, e2, e3, e4]
  rw [hB, hD]
  simp only [hE]

/-- what C04 compares: everything but the bookkeeping fields (descriptor, ordering score) and the
    key, which follows from `KeyOK` -/
structure Obs (a b : Pos) : Prop where
  board : a.board = b.board
  toMove : a.toMove = b.toMove
  rights : ∀ ct, a.right ct = b.right ct
  ep : a.ep = b.ep
  wk : a.wk = b.wk
  bk : a.bk = b.bk

theorem Obs.key (a b : Pos) (ho : Obs a b) (ha : KeyOK h a) (hb : KeyOK h b) : a.key = b.key := by
  unfold KeyOK scratchKey at *
  have r1 := ho.rights .wks; have r2 := ho.rights .wqs; have r3 := ho.rights .bks; have r4 := ho.rights .bqs
  simp only [Pos.right] at r1 r2 r3 r4
  rw [ha, hb, ho.board, ho.toMove, r1, r2, r3, r4, ho.ep]

theorem Obs.of_kingPt {a b : Pos} (hb : a.board = b.board) (ht : a.toMove = b.toMove)
    (hk : ∀ c, kingPt a c = kingPt b c) (hr : ∀ ct, a.right ct = b.right ct) (he : a.ep = b.ep) : Obs a b :=
  ⟨hb, ht, hr, he, hk .white, hk .black⟩

theorem kingPt_wk (a b : Pos) (hk : ∀ c, kingPt a c = kingPt b c) : a.wk = b.wk ∧ a.bk = b.bk :=
  ⟨hk .white, hk .black⟩

theorem ite_takeAway_fields (b : Pos) (c : Prop) [Decidable c] (ct : CastlingType) :
    (if c then b.takeAway h ct else b).board = b.board ∧ (if c then b.takeAway h ct else b).toMove = b.toMove ∧
    (if c then b.takeAway h ct else b).ep = b.ep ∧ ∀ k, kingPt (if c then b.takeAway h ct else b) k = kingPt b k := by
  split
  · exact ⟨takeAway_board h b ct, takeAway_toMove h b ct, takeAway_ep h b ct, takeAway_kingPt h b ct⟩
  · exact ⟨rfl, rfl, rfl, fun _ => rfl⟩

theorem mkB'_fields (b : Pos) (sp ep : Point) :
    (mkB' h b sp ep).board = b.board ∧ (mkB' h b sp ep).toMove = b.toMove ∧ (mkB' h b sp ep).ep = b.ep ∧
    ∀ c, kingPt (mkB' h b sp ep) c = kingPt b c := by
  unfold mkB'
  simp only [ite_takeAway_fields, and_self, implies_true]

theorem ite_takeAway_right (b : Pos) (c : Prop) [Decidable c] (ct' ct : CastlingType) :
    (if c then b.takeAway h ct' else b).right ct = (b.right ct && !(decide c && decide (ct' = ct))) := by
  by_cases hc : c
  · rw [if_pos hc, takeAway_right]
    by_cases e : ct' = ct <;> simp [hc, e]
  · rw [if_neg hc]; simp [hc]

theorem mkB'_right (b : Pos) (sp ep : Point) (ct : CastlingType) :
    (mkB' h b sp ep).right ct = (b.right ct && !(decide (sp = cornerPt ct) || decide (ep = cornerPt ct))) := by
  have corner : cornerPt ct = (match ct with | .wks => ⟨9, 9⟩ | .wqs => ⟨9, 2⟩ | .bqs => ⟨2, 2⟩ | .bks => ⟨2, 9⟩ : Point) := by
    cases ct <;> rfl
  rw [corner]
  unfold mkB'
  simp only [ite_takeAway_right]
  cases ct <;> simp <;> cases b.right _ <;> simp

theorem mkD'_fields (b : Pos) (pr : Option Kind) (ep : Point) :
    (mkD' h b pr ep).toMove = b.toMove ∧ (mkD' h b pr ep).ep = b.ep ∧ (∀ c, kingPt (mkD' h b pr ep) c = kingPt b c) ∧
    ∀ ct, (mkD' h b pr ep).right ct = b.right ct := by
  unfold mkD'
  cases pr <;> exact ⟨rfl, rfl, fun c => by cases c <;> rfl, fun ct => by cases ct <;> rfl⟩

theorem mkD'_board (b : Pos) (pr : Option Kind) (ep : Point) :
    (mkD' h b pr ep).board = (match pr with | some k => b.board.set ep.row ep.col (.full ⟨b.toMove, k⟩) | none => b.board) := by
  cases pr <;> rfl

theorem mkE'_cases (b : Pos) (sp ep : Point) (pr : Option Kind) :
    mkE' h b sp ep pr = b.swapColor h ∨ ∃ s e, mkE' h b sp ep pr = (b.movePiece h s e).swapColor h := by
  unfold mkE'
  dsimp only
  split
  · exact Or.inr ⟨_, _, rfl⟩
  · split
    · exact Or.inr ⟨_, _, rfl⟩
    · split
      · exact Or.inr ⟨_, _, rfl⟩
      · split
        · exact Or.inr ⟨_, _, rfl⟩
        · exact Or.inl rfl

theorem mkE'_fields (b : Pos) (sp ep : Point) (pr : Option Kind) :
    (mkE' h b sp ep pr).toMove = b.toMove.opp ∧ (mkE' h b sp ep pr).ep = b.ep ∧
    (∀ c, kingPt (mkE' h b sp ep pr) c = kingPt b c) ∧ ∀ ct, (mkE' h b sp ep pr).right ct = b.right ct := by
  have sw : ∀ x : Pos, (x.swapColor h).toMove = x.toMove.opp ∧ (x.swapColor h).ep = x.ep ∧
      (∀ c, kingPt (x.swapColor h) c = kingPt x c) ∧ ∀ ct, (x.swapColor h).right ct = x.right ct :=
    fun x => ⟨rfl, rfl, fun c => by cases c <;> rfl, fun ct => by cases ct <;> rfl⟩
  rcases mkE'_cases h b sp ep pr with e | ⟨s, e', e⟩
  · rw [e]; exact sw b
  · rw [e]
    simpa only [movePiece_toMove, movePiece_ep, movePiece_kingPt, movePiece_right] using sw (b.movePiece h s e')

/-- the position `make_move` returns for the text of (sp, ep, pr) when `piece` stands on `sp` -/
def mkRes (p : Pos) (sp ep : Point) (pr : Option Kind) (piece : Piece) : Pos :=
  mkE' h (mkD' h ((mkB' h (mkA h (p.unsetEp h) sp ep piece) sp ep).movePiece h sp ep) pr ep) sp ep pr

section
variable (p : Pos) (sp ep : Point) (pr : Option Kind) (piece : Piece)

theorem mkRes_toMove : (mkRes h p sp ep pr piece).toMove = p.toMove.opp := by
  unfold mkRes
  simp only [mkE'_fields, mkD'_fields, movePiece_toMove, mkB'_fields, mkA_fields, unsetEp_toMove]

theorem mkRes_kingPt (c : Color) :
    kingPt (mkRes h p sp ep pr piece) c = if piece = ⟨c, .king⟩ then ep else kingPt p c := by
  unfold mkRes
  simp only [mkE'_fields, mkD'_fields, movePiece_kingPt, mkB'_fields, mkA_fields, unsetEp_kingPt]

theorem mkRes_right (ct : CastlingType) :
    (mkRes h p sp ep pr piece).right ct =
      (p.right ct && !(piece.kind == .king && piece.color == rightColor ct) &&
        !(decide (sp = cornerPt ct) || decide (ep = cornerPt ct))) := by
  unfold mkRes
  simp only [mkE'_fields, mkD'_fields, movePiece_right, mkB'_right, mkA_fields, unsetEp_right]

theorem mkRes_ep :
    (mkRes h p sp ep pr piece).ep =
      (if piece.kind = .pawn ∧ ((sp.row : Int) - ep.row).natAbs = 2 then some (front piece.color.opp sp) else none) := by
  unfold mkRes
  simp only [mkE'_fields, mkD'_fields, movePiece_ep, mkB'_fields, mkA_fields, unsetEp_ep]

end

theorem mkE'_board_nohop (b : Pos) (sp ep : Point) (pr : Option Kind)
    (hn : ∀ c : Color, (b.board.get ep.row ep.col).isPiece ⟨c, .king⟩ = true →
      ¬ (sp.col = 6 ∧ (ep.col = 8 ∨ ep.col = 4) ∧ pr = none)) :
    (mkE' h b sp ep pr).board = b.board := by
  unfold mkE'
  simp only [swapColor_board]
  have n : ∀ (r k : Nat) (c : Color), k = 8 ∨ k = 4 →
      ¬ ((sp = ⟨r, 6⟩ ∧ ep = ⟨r, k⟩ ∧ pr = none) ∧ (b.board.get ep.row ep.col).isPiece ⟨c, .king⟩ = true) := by
    rintro r k c hk ⟨⟨rfl, rfl, rfl⟩, hkg⟩; exact hn c hkg ⟨rfl, hk, rfl⟩
  rw [if_neg (n 9 8 .white (.inl rfl)), if_neg (n 9 4 .white (.inr rfl)), if_neg (n 2 8 .black (.inl rfl)),
    if_neg (n 2 4 .black (.inr rfl))]

def movedBoard (p : Pos) (sp ep : Point) (piece : Piece) : Board :=
  ((if piece.kind = .pawn ∧ sp.col ≠ ep.col ∧ p.board.get ep.row ep.col = .empty
      then p.board.set sp.row ep.col .empty else p.board).set sp.row sp.col .empty).set ep.row ep.col (.full piece)

theorem mkRes_board (p : Pos) (sp ep : Point) (pr : Option Kind) (piece : Piece) (hep : OnBoard ep)
    (hpc : p.board.get sp.row sp.col = .full piece)
    (hnh : ¬ (sp.col = 6 ∧ (ep.col = 8 ∨ ep.col = 4) ∧ pr = none ∧ piece.kind = .king)) :
    (mkRes h p sp ep pr piece).board =
      (match pr with
       | some k => (movedBoard p sp ep piece).set ep.row ep.col (.full ⟨p.toMove, k⟩)
       | none => movedBoard p sp ep piece) := by
  unfold mkRes movedBoard
  have hget : (mkB' h (mkA h (p.unsetEp h) sp ep piece) sp ep).board.get sp.row sp.col = .full piece := by
    simpa only [mkB'_fields, mkA_get_origin, unsetEp_board] using hpc
  have hD := mkD'_board h ((mkB' h (mkA h (p.unsetEp h) sp ep piece) sp ep).movePiece h sp ep) pr ep
  simp only [movePiece_board_full h _ sp ep piece hget, movePiece_toMove, mkB'_fields, mkA_fields, unsetEp_board,
    unsetEp_toMove] at hD
  rw [mkE'_board_nohop h _ sp ep pr, hD]
  · cases pr <;> rfl
  · intro c hk ⟨h6, h84, hn⟩
    subst hn
    unfold OnBoard at hep
    rw [hD, Board.get_set_eq _ _ _ _ (by omega) (by omega)] at hk
    have := Square.full.inj ((isPiece_iff _ _).mp hk)
    exact hnh ⟨h6, h84, rfl, by rw [this]⟩

theorem mkE'_castle (b : Pos) (ct : CastlingType)
    (hk : b.board.get (homeRow (rightColor ct)) (kTo ct) = .full ⟨rightColor ct, .king⟩) :
    mkE' h b ⟨homeRow (rightColor ct), kFrom⟩ ⟨homeRow (rightColor ct), kTo ct⟩ none =
      (b.movePiece h ⟨homeRow (rightColor ct), rFrom ct⟩ ⟨homeRow (rightColor ct), rTo ct⟩).swapColor h := by
  unfold mkE'
  cases ct <;> simp [homeRow, kTo, rTo, rFrom, rightColor, Square.isPiece] at hk ⊢ <;> simp [hk]

theorem target_facts (b : Board) (hr : RingOK b) (pc : Piece) (sq mov : Point) (hsq : OnBoard sq)
    (hmov : mov ∈ getMoves pc sq.row sq.col b .all) :
    OnBoard mov ∧
    (pc.kind = .king → ¬ (sq.col = 6 ∧ (mov.col = 8 ∨ mov.col = 4))) ∧
    (pc.kind = .pawn →
      (sq.col ≠ mov.col → b.get mov.row mov.col ≠ .empty) ∧
      (((sq.row : Int) - mov.row).natAbs = 2 → mov.col = sq.col ∧
        (pc.color = .white → mov.row + 2 = sq.row ∧ sq.row = 8) ∧ (pc.color = .black → mov.row = sq.row + 2 ∧ sq.row = 3))) := by
  have hm := getMoves_onBoard pc sq.row sq.col b .all hr mov hmov
  refine ⟨hm, ?_, ?_⟩
  · intro hk
    unfold getMoves at hmov
    rw [hk] at hmov
    simp only at hmov
    obtain ⟨i, j, hi, hj, hpt, _⟩ := (mem_kingMoves pc sq.row sq.col b .all mov).mp hmov
    rw [hpt]; simp only
    unfold OnBoard at hsq
    omega
  · intro hk
    unfold getMoves at hmov
    rw [hk] at hmov
    simp only at hmov
    unfold OnBoard at hsq hm
    obtain ⟨c, k⟩ := pc
    rcases (mem_pawnMoves ⟨c, k⟩ sq.row sq.col b .all mov).mp hmov with ⟨hp, hx⟩ | ⟨_, he, hh⟩
    · -- a capture: the target holds a piece, and it is one row away
      refine ⟨fun _ e => (by rw [e] at hx; cases hx), fun h2 => ?_⟩
      exfalso
      rcases hp with rfl | rfl <;> cases c <;> simp only [ahead] at h2 hm <;> omega
    · refine ⟨fun hne => ?_, fun h2 => ?_⟩
      · rcases hh with rfl | ⟨_, _, rfl⟩ <;> exact absurd rfl hne
      · rcases hh with rfl | ⟨h1, _, rfl⟩
        · exfalso; cases c <;> simp only [ahead] at h2 hm <;> omega
        · refine ⟨rfl, ?_, ?_⟩ <;> rintro rfl <;>
            simp only [ahead, doublePushRow, Gen.whiteDoublePushRow, Gen.blackDoublePushRow, true_and] at h1 hm ⊢ <;> omega

/-- the generator's successor for an ordinary target before the promotion fan-out, in the form
    `mkRes_toMove` … `mkRes_ep` give for `make_move` -/
theorem target_succ_fields (p : Pos) (hr : RingOK p.board) (hR : RightsOK p) (sq : Point) (hsq : OnBoard sq) (pc : Piece)
    (hpc : p.board.get sq.row sq.col = .full pc) (mov : Point) (hmov : mov ∈ getMoves pc sq.row sq.col p.board .all)
    (nb : Pos) (hnb : nb = st3 h pc sq mov (st2 h pc sq mov (st1 h pc p sq mov))) :
    nb.board = (p.board.set sq.row sq.col .empty).set mov.row mov.col (.full pc) ∧
    nb.toMove = p.toMove.opp ∧ nb.promo = none ∧
    (∀ c, kingPt nb c = if pc = ⟨c, .king⟩ then mov else kingPt p c) ∧
    (∀ ct, nb.right ct = (p.right ct && !(pc.kind == .king && pc.color == rightColor ct) &&
        !(decide (sq = cornerPt ct) || decide (mov = cornerPt ct)))) ∧
    nb.ep = (if pc.kind = .pawn ∧ ((sq.row : Int) - mov.row).natAbs = 2 then some (front pc.color.opp sq) else none) := by
  obtain ⟨hm, _, fpawn⟩ := target_facts p.board hr pc sq mov hsq hmov
  subst hnb
  refine ⟨?_, ?_, ?_, fun c => ?_, fun ct => ?_, ?_⟩
  · rw [st3_board, st2_board, st1_board]; exact movePiece_board_full h p sq mov pc hpc
  · rw [st3_toMove, st2_toMove, st1_toMove]
  · exact st123_promo h pc p sq mov
  · rw [kingPt_congr _ (st1 h pc p sq mov) (st23_kings h pc sq mov _).1 (st23_kings h pc sq mov _).2 c, st1_kingPt]
  · -- the substring tests of `make_move` also fire on the origin of a king move, which cannot matter in a
    -- well-formed position: a right whose corner holds a king is not held
    rw [st3_right, st2_right, st1_right, cornerRight_beq_some, cornerRight_beq_some]
    by_cases hk : pc.kind = .king
    · cases hc : cornerRight sq == some ct
      · simp
      · rw [hR.right_eq_false_of_get ((cornerRight_eq_some_iff sq ct).mp (beq_iff_eq.mp hc) ▸ hpc) fun e => by rw [e] at hk; cases hk]
        simp
    · simp [bne, beq_false_of_ne hk, Bool.and_assoc]
  · -- the en passant target after a double step is the same square
    rw [st3_ep]
    by_cases hc : pc.kind = .pawn ∧ ((sq.row : Int) - mov.row).natAbs = 2
    · rw [if_pos hc, if_pos hc]
      obtain ⟨e1, e2, e3⟩ := (fpawn hc.1).2 hc.2
      cases hcc : pc.color with
      | white => have := (e2 hcc).1; simp only [front, Color.opp]; congr 1; congr 1 <;> omega
      | black => have := (e3 hcc).1; simp only [front, Color.opp]; congr 1; congr 1 <;> omega
    · rw [if_neg hc, if_neg hc]

theorem obs_target (p : Pos) (hr : RingOK p.board) (hR : RightsOK p) (sq : Point) (hsq : OnBoard sq) (pc : Piece)
    (hpc : p.board.get sq.row sq.col = .full pc) (hcol : pc.color = p.toMove) (mov : Point)
    (hmov : mov ∈ getMoves pc sq.row sq.col p.board .all) :
    ∀ q ∈ st4 h pc sq mov (st3 h pc sq mov (st2 h pc sq mov (st1 h pc p sq mov))),
      Obs (mkRes h p sq mov (q.promo.map (·.kind)) pc) q := by
  intro q hq
  obtain ⟨hm, fking, fpawn⟩ := target_facts p.board hr pc sq mov hsq hmov
  obtain ⟨nbb, nbt, nbp, nbk, nbr, nbe⟩ := target_succ_fields h p hr hR sq hsq pc hpc mov hmov _ rfl
  generalize st3 h pc sq mov (st2 h pc sq mov (st1 h pc p sq mov)) = nb at hq nbb nbt nbp nbk nbr nbe
  -- no en passant victim: a pawn's diagonal target is occupied
  have hmb : movedBoard p sq mov pc = nb.board := by
    unfold movedBoard
    rw [nbb, if_neg (fun ⟨hk, hne, he⟩ => (fpawn hk).1 hne he)]
  rw [st4_eq_rows] at hq
  split at hq
  · rename_i hw
    obtain ⟨hk, hrow⟩ := hw
    obtain ⟨kind, -, rfl⟩ := (mem_promotePawn_iff h nb pc.color sq mov q).mp hq
    show Obs (mkRes h p sq mov (some kind) pc) _
    have hnd : ¬ (pc.kind = .pawn ∧ ((sq.row : Int) - mov.row).natAbs = 2) := by
      rintro ⟨-, h2⟩
      obtain ⟨_, e2, e3⟩ := (fpawn hk).2 h2
      simp only [Gen.boardStart, Gen.boardEnd] at hrow
      rcases hrow with ⟨_, hc⟩ | ⟨_, hc⟩
      · have := e2 hc; omega
      · have := e3 hc; omega
    refine Obs.of_kingPt ?_ ?_ (fun c' => ?_) (fun ct => ?_) ?_
    · rw [mkRes_board h p sq mov _ pc hm hpc (fun x => by cases x.2.2.1), hmb]
      show _ = (nb.unsetEp h).board.set mov.row mov.col (.full ⟨pc.color, kind⟩)
      rw [unsetEp_board, ← hcol]
    · rw [mkRes_toMove]; show _ = (nb.unsetEp h).toMove; rw [unsetEp_toMove, nbt]
    · rw [mkRes_kingPt]; show _ = kingPt (nb.unsetEp h) c'; rw [unsetEp_kingPt, nbk]
    · rw [mkRes_right]; show _ = (nb.unsetEp h).right ct; rw [unsetEp_right, nbr]
    · rw [mkRes_ep, if_neg hnd]; show none = (nb.unsetEp h).ep; rw [unsetEp_ep]
  · obtain rfl := List.mem_singleton.mp hq
    rw [nbp]
    show Obs (mkRes h p sq mov none pc) _
    refine Obs.of_kingPt ?_ (by rw [mkRes_toMove, nbt]) (fun c => by rw [mkRes_kingPt, nbk])
      (fun ct => by rw [mkRes_right, nbr]) (by rw [mkRes_ep, nbe])
    rw [mkRes_board h p sq mov _ pc hm hpc (fun x => fking x.2.2.2 ⟨x.1, x.2.1⟩)]
    exact hmb

theorem obs_ep (p : Pos) (wf : WFp p) (o : Spec.Sq) (c : Color) (mov : Point) (x : EpCtx p o c mov) :
    Obs (mkRes h p (toPt o) mov none ⟨c, .pawn⟩) (epBoard h ⟨c, .pawn⟩ p (toPt o) mov) := by
  obtain ⟨ho, hm, hpc, hcol, hep, hgeo⟩ := x
  have hfr := hgeo.front_eq
  unfold EpGeo at hgeo
  have hPep : (abs p).ep = some (specOf mov) := by rw [abs_ep, hep]; rfl
  obtain ⟨_, _, hempty, _, _⟩ := wf.lp.ep _ hPep
  have hmovE : p.board.get mov.row mov.col = .empty :=
    (isEmpty_iff _).mp (by rw [← isNone_at_specOf p wf.inner mov hm]; exact hempty)
  have hcolne : (toPt o).col ≠ mov.col := by cases c <;> simp only at hgeo <;> omega
  have hrowne : (toPt o).row ≠ mov.row := by cases c <;> simp only at hgeo <;> omega
  refine Obs.of_kingPt ?_ (by rw [mkRes_toMove, epBoard_toMove]) (fun c' => ?_) (fun ct => ?_) ?_
  · -- the board: victim removed first by make_move, last by the generator
    rw [epBoard_board h c p (toPt o) mov hpc, hfr, mkRes_board h p (toPt o) mov none _ hm hpc (fun x => by cases x.2.2.2)]
    unfold movedBoard
    rw [if_pos ⟨rfl, hcolne, hmovE⟩,
      Board.set_comm p.board (toPt o).row mov.col (toPt o).row (toPt o).col .empty .empty (fun e => hcolne e.2.symm),
      Board.set_comm _ (toPt o).row mov.col mov.row mov.col .empty (.full ⟨c, .pawn⟩) (fun e => hrowne e.1)]
  · rw [mkRes_kingPt, kingPt_congr _ _ (epBoard_wk ..) (epBoard_bk ..), if_neg (fun e => by cases e)]
  · rw [mkRes_right, epBoard_right]
    have n : ∀ pt : Point, pt.row = (toPt o).row ∨ pt.row = mov.row → pt ≠ cornerPt ct := by
      intro pt hpt e; have := congrArg Point.row e
      rw [(castle_squares ct).2.2] at this
      cases ct <;> cases c <;> simp only [homeRow, rightColor] at this hgeo <;> omega
    simp [n _ (Or.inl rfl), n _ (Or.inr rfl)]
  · rw [mkRes_ep, epBoard_ep, if_neg]
    cases c <;> simp only at hgeo <;> omega

theorem obs_castle (p : Pos) (ct : CastlingType) (hk : kingPt p (rightColor ct) = ⟨homeRow (rightColor ct), kFrom⟩)
    (gK : p.board.get (homeRow (rightColor ct)) kFrom = .full ⟨rightColor ct, .king⟩)
    (gR : p.board.get (homeRow (rightColor ct)) (rFrom ct) = .full ⟨rightColor ct, .rook⟩) :
    Obs (mkRes h p ⟨homeRow (rightColor ct), kFrom⟩ ⟨homeRow (rightColor ct), kTo ct⟩ none ⟨rightColor ct, .king⟩)
      (castleSucc h p ct) := by
  obtain ⟨sb, skp⟩ := castleSucc_shape h p ct hk gK gR
  refine Obs.of_kingPt ?_ (by rw [mkRes_toMove, castleSucc_toMove]) (fun c => by rw [mkRes_kingPt, skp]; simp [eq_comm])
    (fun ct' => ?_) (by rw [mkRes_ep, castleSucc_ep]; simp)
  · rw [sb]
    unfold mkRes
    -- stages A and B leave the board alone: the mover is a king
    have hb0 : (mkB' h (mkA h (p.unsetEp h) ⟨homeRow (rightColor ct), kFrom⟩ ⟨homeRow (rightColor ct), kTo ct⟩
        ⟨rightColor ct, .king⟩) ⟨homeRow (rightColor ct), kFrom⟩ ⟨homeRow (rightColor ct), kTo ct⟩).board = p.board := by
      simp [mkB'_fields, mkA_fields]
    have cc := cCols ct
    have hcb := castle_board h _ (homeRow (rightColor ct)) (kTo ct) (rFrom ct) (rTo ct) ⟨rightColor ct, .king⟩
      ⟨rightColor ct, .rook⟩ (hb0 ▸ gK) (hb0 ▸ gR) cc.rfrom_ne_kFrom cc.rfrom_ne_kto
    rw [hb0] at hcb
    have hrow := homeRow_bounds (rightColor ct)
    rw [mkE'_castle h _ ct, swapColor_board, ← hcb]
    · rfl
    · show (Pos.movePiece h _ _ _).board.get _ _ = _
      rw [movePiece_board_full h _ _ _ _ (hb0 ▸ gK)]
      exact Board.get_set_eq _ _ _ _ (Nat.lt_of_le_of_lt hrow.2 (by decide)) (Nat.lt_of_le_of_lt cc.kto_on.2 (by decide))
  · rw [mkRes_right, castleSucc_right]
    cases ct <;> cases ct' <;> simp [rightColor, cornerPt, cornerSq, toPt, homeRow, kTo]

theorem moveText_eq (q : Pos) (a b : Point) (hl : q.lastMove = some (a, b)) :
    moveText q = some (uciOf a b (q.promo.map (·.kind))) := by
  unfold moveText uciOf
  rw [hl]
  cases q.promo <;> rfl

/-- `MoveTextOK` (Proofs/MakeMoveKey) for a move given by its squares instead of its text
    (`MoveOK.moveTextOK`) -/
structure MoveOK (p : Pos) (sp ep : Point) (pr : Option Kind) (piece : Piece) : Prop where
  victim : piece.kind = .pawn → sp.col ≠ ep.col → p.board.get ep.row ep.col = .empty →
    p.board.get sp.row ep.col = .full ⟨p.toMove.opp, .pawn⟩
  promoter : pr.isSome = true → piece = ⟨p.toMove, .pawn⟩

theorem st4_descr (piece : Piece) (sq mov : Point) (nb : Pos) (hl : nb.lastMove = some (sq, mov)) (hp : nb.promo = none) :
    ∀ q ∈ st4 h piece sq mov nb, q.lastMove = some (sq, mov) ∧ q.promo.map (·.kind) ∈ promos ∧
      (q.promo.isSome = true → piece.kind = .pawn) := by
  intro q hq
  rw [st4_eq_rows] at hq
  split at hq
  · rename_i hw
    unfold promotePawn at hq
    obtain ⟨kind, hkind, rfl⟩ := List.mem_map.mp hq
    refine ⟨rfl, ?_, fun _ => hw.1⟩
    simp only [Option.map_some]
    simp only [Gen.promotionOrder, List.mem_cons, List.mem_nil_iff, or_false] at hkind
    rcases hkind with rfl | rfl | rfl | rfl <;> simp [promos]
  · obtain rfl := List.mem_singleton.mp hq
    exact ⟨hl, by rw [hp]; simp [promos], by rw [hp]; simp⟩

/-- `q` is `p` after the move of `piece` from `a` to `b`, one that `make_move`'s bookkeeping handles (`ok`), and
    `make_move` on the printed text of that move gives `q` again (`obs`) -/
structure Replays (p q : Pos) (a b : Point) (piece : Piece) : Prop where
  last : q.lastMove = some (a, b)
  src : OnBoard a
  dst : OnBoard b
  promo : q.promo.map (·.kind) ∈ promos
  mover : p.board.get a.row a.col = .full piece
  ok : MoveOK p a b (q.promo.map (·.kind)) piece
  obs : Obs (mkRes h p a b (q.promo.map (·.kind)) piece) q

/-- **C04 on the model**: every generated successor `q` is reproduced (board, side to move, castling
    rights, en passant target, king caches) by `make_move` on the printed text of its move -/
theorem generated_move_replays (p : Pos) (wf : WFp p) :
    ∀ q ∈ generateMoves h p .all, ∃ a b piece, Replays h p q a b piece := by
  intro q hq
  rcases (mem_generateMoves_toPt h p .all q).mp hq with
    ⟨o, piece, ho, hsq, hcol, ⟨mov, hmov, hqm⟩ | h2⟩ | ⟨_, ct, _, hc, rfl⟩
  · have hon := toPt_onBoard o ho
    rw [succsForTarget_eq] at hqm
    split at hqm
    · cases hqm
    · obtain ⟨hm, _, fpawn⟩ := target_facts p.board wf.ring piece (toPt o) mov hon hmov
      obtain ⟨hl, hpr, hpk⟩ := st4_descr h piece (toPt o) mov _ (st123_lastMove h piece p _ mov)
        (st123_promo h piece p _ mov) q hqm
      exact ⟨toPt o, mov, piece, {
        last := hl, src := hon, dst := hm, promo := hpr, mover := hsq
        ok.victim := fun hk hne he => absurd he ((fpawn hk).1 hne)
        ok.promoter := fun hs => Piece.eq_mk piece _ _ hcol (hpk (by simpa using hs))
        obs := obs_target h p wf.ring (rightsOK_of_LP p wf.lp) (toPt o) hon piece hsq hcol mov hmov q hqm }⟩
  · obtain ⟨c, mov, rfl, x, _, _, rfl⟩ := (mem_epSuccs h p wf o ho piece hsq hcol q).mp h2
    refine ⟨toPt o, mov, ⟨c, .pawn⟩, {
      last := epBoard_lastMove .., src := toPt_onBoard o ho, dst := x.hm, mover := hsq
      promo := by rw [epBoard_promo]; simp [promos]
      ok.victim := fun _ _ _ => ?_
      ok.promoter := fun hs => by rw [epBoard_promo] at hs; cases hs
      obs := by rw [epBoard_promo]; exact obs_ep h p wf o c mov x }⟩
    -- the pawn that has just double-stepped stands beside the capturing one
    obtain ⟨_, _, hv⟩ := epWF_of_lp p wf.lp wf.epb mov x.hep
    rw [← x.hcol, x.geo.front_eq] at hv
    rw [← x.hcol]; exact hv
  · obtain ⟨gK, gR, hk⟩ := right_mailbox p wf.lp wf.kings ct ((canCastle_iff p ct).mp hc).1
    have hrow := homeRow_bounds (rightColor ct)
    exact ⟨_, _, _, {
      last := castleSucc_lastMove h p ct, mover := gK
      src := ⟨hrow.1, hrow.2, (by decide : 2 ≤ 6), (by decide : 6 ≤ 9)⟩
      dst := ⟨hrow.1, hrow.2, (cCols ct).kto_on.1, (cCols ct).kto_on.2⟩
      promo := by rw [castleSucc_promo]; simp [promos]
      ok.victim := fun hk => by cases hk
      ok.promoter := fun hs => by rw [castleSucc_promo] at hs; cases hs
      obs := by rw [castleSucc_promo]; exact obs_castle h p ct hk gK gR }⟩

theorem makeMove_reproduces_successor (p : Pos) (wf : WFp p) :
    ∀ q ∈ generateMoves h p .all, ∃ a b q', q.lastMove = some (a, b) ∧ OnBoard a ∧ OnBoard b ∧
      makeMove h p (uciOf a b (q.promo.map (·.kind))) = some q' ∧ Obs q' q := by
  intro q hq
  obtain ⟨a, b, piece, r⟩ := generated_move_replays h p wf q hq
  exact ⟨a, b, _, r.last, r.src, r.dst, makeMove_text h p a b _ r.src r.dst r.promo piece r.mover, r.obs⟩

theorem abs_of_obs (a b : Pos) (ho : Obs a b) : abs a = abs b := by
  have r1 := ho.rights .wks; have r2 := ho.rights .wqs; have r3 := ho.rights .bks; have r4 := ho.rights .bqs
  simp only [Pos.right] at r1 r2 r3 r4
  apply specPos_ext
  · rw [abs_cells, abs_cells, ho.board]
  · exact ho.toMove
  · exact r1
  · exact r2
  · exact r3
  · exact r4
  · rw [abs_ep, abs_ep, ho.ep]

theorem wf_of_obs (a b : Pos) (ho : Obs a b) (wf : WFp b) : WFp a := by
  exact ⟨by rw [ho.board]; exact wf.ring, by rw [ho.board]; exact wf.inner,
    wf.kings.of_kingAt ho.wk ho.bk fun c hc => by rw [ho.board]; exact hc, by rw [abs_of_obs a b ho]; exact wf.lp,
    fun t ht => wf.epb t (by rw [← ho.ep]; exact ht)⟩

def uciText (m : Spec.Move) : List Char := uciOf (toPt m.src) (toPt m.dst) m.promo

theorem uciText_moveOf (q : Pos) (a b : Point) (hl : q.lastMove = some (a, b)) (ha : OnBoard a) (hb : OnBoard b) :
    uciText (moveOf q) = uciOf a b (q.promo.map (·.kind)) := by
  unfold uciText
  rw [moveOf_of q a b hl]
  simp only
  rw [toPt_specOf a ha, toPt_specOf b hb]

/-- `MoveTextOK` speaks of whatever the text parses to; the text of (a, b, pr) parses to just these -/
theorem MoveOK.moveTextOK {p : Pos} {a b : Point} {pr : Option Kind} {piece : Piece} (ok : MoveOK p a b pr piece)
    (ha : OnBoard a) (hb : OnBoard b) (hpc : p.board.get a.row a.col = .full piece) : MoveTextOK p (uciOf a b pr) := by
  obtain ⟨f1, f2, l5⟩ := uciOf_read (pr := pr) ha hb
  have f3 := parsePoint?_pointDisplay ha
  have f4 := parsePoint?_pointDisplay hb
  constructor
  · intro s1 s2 sp ep piece' e1 e2 e3 e4 hpiece
    obtain rfl := Option.some.inj (f1.symm.trans e1)
    obtain rfl := Option.some.inj (f2.symm.trans e2)
    obtain rfl := Option.some.inj (f3.symm.trans e3)
    obtain rfl := Option.some.inj (f4.symm.trans e4)
    obtain rfl := Square.full.inj (hpc.symm.trans hpiece)
    exact ok.victim
  · intro sp piece' h5 hpiece ⟨s1, e1, e3⟩
    obtain rfl := Option.some.inj (f1.symm.trans e1)
    obtain rfl := Option.some.inj (f3.symm.trans e3)
    obtain rfl := Square.full.inj (hpc.symm.trans hpiece)
    exact ok.promoter (l5.mp h5)

/-- `MoveTextOK p (uciText m)`, written out -/
theorem legal_text_ok (p : Pos) (wf : WFp p) (m : Spec.Move) (hlegal : Spec.legal (abs p) m = true)
    (hpr : m.promo ∈ promos) :
    (∀ (s1 s2 : List Char) (sp ep : Point) (piece : Piece), byteSlice (uciText m) 0 2 = some s1 → byteSlice (uciText m) 2 4 = some s2 →
      parsePoint? s1 = some sp → parsePoint? s2 = some ep → p.board.get sp.row sp.col = .full piece → piece.kind = .pawn →
      sp.col ≠ ep.col → p.board.get ep.row ep.col = .empty → p.board.get sp.row ep.col = .full ⟨p.toMove.opp, .pawn⟩) ∧
    (∀ sp : Point, ∀ piece : Piece, byteLen (uciText m) = 5 → p.board.get sp.row sp.col = .full piece →
      (∃ s1, byteSlice (uciText m) 0 2 = some s1 ∧ parsePoint? s1 = some sp) → piece = ⟨p.toMove, .pawn⟩) := by
  -- a legal move is a generated one (for any hasher: the text does not depend on it)
  obtain ⟨q, hq, hmo⟩ := generateMoves_complete Hasher.real p wf m hlegal
  obtain ⟨a, b, piece, r⟩ := generated_move_replays Hasher.real p wf q hq
  rw [← hmo, uciText_moveOf q a b r.last r.src r.dst]
  exact r.ok.moveTextOK r.src r.dst r.mover

/-- **replaying a legal move**: `make_move` on the UCI text of a legal move returns the position the
    rules give, again well-formed and with an exact key -/
theorem makeMove_legal (p : Pos) (wf : WFp p) (hinv : Inv h p) (m : Spec.Move) (hlegal : Spec.legal (abs p) m = true) :
    ∃ q', makeMove h p (uciText m) = some q' ∧ abs q' = Spec.apply (abs p) m ∧ WFp q' ∧ Inv h q' ∧
      ∃ q ∈ generateMoves h p .all, moveOf q = m ∧ Obs q' q := by
  obtain ⟨q, hq, hmo⟩ := generateMoves_complete h p wf m hlegal
  obtain ⟨a, b, piece, r⟩ := generated_move_replays h p wf q hq
  obtain ⟨wfq, -⟩ := generateMoves_wf h p wf hinv q hq
  have habs := (generateMoves_sound h p wf q hq).2
  have htxt : uciText m = uciOf a b (q.promo.map (·.kind)) := by rw [← hmo]; exact uciText_moveOf q a b r.last r.src r.dst
  have hmk := makeMove_text h p a b _ r.src r.dst r.promo piece r.mover
  have hgood := hinv.good.makeMove (r.ok.moveTextOK r.src r.dst r.mover) hmk
  rw [← htxt] at hmk
  have wfq' := wf_of_obs _ q r.obs wfq
  exact ⟨mkRes h p a b _ piece, hmk, by rw [abs_of_obs _ q r.obs, habs, hmo], wfq',
    .of_good hgood (epWF_of_lp _ wfq'.lp wfq'.epb), q, hq, hmo, r.obs⟩
end Walleye
