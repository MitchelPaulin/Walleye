/-
  The start position as loaded by the model's FEN reader with the real hasher constants — the
  non-vacuity witness shared by the property files.  Nothing here runs the loader: the default FEN is
  the canonical text of the initial position of chess, so every fact is the general FEN theorem
  (`fromFen_canonical`) at that position.
-/
import Walleye.Proofs.FenFaithful
namespace Walleye

def startPosition : Pos :=
  match fromFen Hasher.real Gen.defaultFen.toList with
  | .ok p => p
  | _ => default

/-- the initial position of chess, rank 1 first -/
def startSpec : Spec.Position where
  cells :=
    let back (c : Color) : List (Option Piece) :=
      [Kind.rook, .knight, .bishop, .queen, .king, .bishop, .knight, .rook].map fun k => some ⟨c, k⟩
    (back .white ++ List.replicate 8 (some (Piece.mk .white .pawn)) ++ List.replicate 32 none ++
      List.replicate 8 (some (Piece.mk .black .pawn)) ++ back .black).toArray
  side := .white
  wks := true
  wqs := true
  bks := true
  bqs := true
  ep := none

theorem defaultFen_canonical : Gen.defaultFen.toList = canonText startSpec ['0'] ['1'] := by decide +kernel

theorem defaultFen_loads (h : Hasher) :
    ∃ p, fromFen h Gen.defaultFen.toList = .ok p ∧ abs p = startSpec ∧ WFp p ∧ Inv h p := by
  obtain ⟨p, hload, habs, hwf⟩ := fromFen_canonical h startSpec (by decide) (fun e he => by cases he)
    ['0'] ['1'] ⟨by decide, by decide, by decide⟩ ⟨by decide, by decide, by decide⟩
  rw [← defaultFen_canonical] at hload
  exact ⟨p, hload, habs, hwf (LP.of_legalPosition _ (by decide +kernel))⟩

theorem start_loads : fromFen Hasher.real Gen.defaultFen.toList = .ok startPosition ∧
    abs startPosition = startSpec ∧ WFp startPosition ∧ Inv Hasher.real startPosition := by
  obtain ⟨p, hload, hp⟩ := defaultFen_loads Hasher.real
  have e : startPosition = p := by unfold startPosition; rw [hload]
  rw [e]
  exact ⟨hload, hp⟩

theorem abs_start : abs startPosition = startSpec := start_loads.2.1

theorem start_wf : WFp startPosition := start_loads.2.2.1

end Walleye
