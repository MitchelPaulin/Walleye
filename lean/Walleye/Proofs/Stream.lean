/-
  The stream of info lines of one `get_best_move` run, at every point of the run and whatever its
  outcome (C18): depths are ≥ 1 and never decrease, within one depth successive lines report strictly
  increasing scores, and the first move of every PV is the move of a root successor — for every game,
  clock expiry and ordering oracle that returns a sub-list.  The stream is read in the order printed
  (`FwdOK` of `infosOf s.reports`); a new line is appended (`fwd_snoc`) and compared with the last one.
-/
import Walleye.Proofs.Range
import Walleye.Proofs.Reports
namespace Walleye

variable {P O : Type}

/-- line `b` may follow line `a` in the stream (`FwdOK`); `Res.Rel` of Proofs/Hoare is something else -/
def Rel (a b : Info) : Prop := a.depth < b.depth ∨ (a.depth = b.depth ∧ a.eval < b.eval)

/-- in the order printed: every line has depth ≥ 1 and each next line has a larger depth, or the
    same depth and a strictly larger score -/
def FwdOK : List Info → Prop
  | [] => True
  | [a] => 1 ≤ a.depth
  | a :: b :: rest => 1 ≤ a.depth ∧ Rel a b ∧ FwdOK (b :: rest)

theorem fwd_snoc (l : List Info) (b : Info) (h : FwdOK l) (hb : 1 ≤ b.depth)
    (hl : ∀ a, l.getLast? = some a → Rel a b) : FwdOK (l ++ [b]) := by
  induction l with
  | nil => exact hb
  | cons x xs ih =>
    cases xs with
    | nil =>
      exact ⟨h, hl x rfl, hb⟩
    | cons y ys =>
      obtain ⟨h1, h2, h3⟩ := h
      refine ⟨h1, h2, ?_⟩
      exact ih h3 (fun a ha => hl a (by rw [List.getLast?_cons_cons]; exact ha))

/-- what the root loop's `alpha` knows of the last line printed: it is of an earlier depth, or of depth
    `c` with a score ≤ `alpha` — so a line of depth `c` with a larger score may follow it (`Rel`) -/
def TopWithin (c : Nat) (alpha : Int) (l : List Info) : Prop :=
  ∀ b, l.getLast? = some b → b.depth < c ∨ (b.depth = c ∧ b.eval ≤ alpha)

/-- the same between iterations: the last line printed is of depth ≤ `c` -/
def TopDepthLe (c : Nat) (l : List Info) : Prop := ∀ b, l.getLast? = some b → b.depth ≤ c

theorem TopWithin.le {c : Nat} {a : Int} {l : List Info} (h : TopWithin c a l) : TopDepthLe c l :=
  fun b hb => by rcases h b hb with h | ⟨h, _⟩ <;> omega

theorem TopDepthLe.next {c : Nat} {l : List Info} (h : TopDepthLe c l) (a : Int) : TopWithin (c + 1) a l :=
  fun b hb => .inl (Nat.lt_succ_of_le (h b hb))

variable (g : Game P)

/-- the PV of line `i` starts with the move that led to some board `q` with `A`; a board without a last
    move (`g.lastMove q = none`, the `x = none` case of `pvPrefix_head`) writes nothing the PV could start with -/
def PvOK (A : P → Prop) (i : Info) : Prop := ∃ q, A q ∧ (g.lastMove q = none ∨ i.pv.head? = g.lastMove q)

/-- inside the root loop of iteration `c` under `alpha` (the `I` of `getBestMove_rule`) -/
structure StreamInv (A : P → Prop) (c : Nat) (alpha : Int) (s : SS P O) : Prop where
  sz : Sz s
  ok : FwdOK (infosOf s.reports)
  top : TopWithin c alpha (infosOf s.reports)
  pv : ∀ i ∈ infosOf s.reports, PvOK g A i

variable {g}

theorem StreamInv.of_infos {A : P → Prop} {c : Nat} {a : Int} {s s' : SS P O}
    (e : infosOf s'.reports = infosOf s.reports) (hsz : Sz s') (hj : StreamInv g A c a s) : StreamInv g A c a s' :=
  ⟨hsz, by rw [e]; exact hj.ok, by rw [e]; exact hj.top, by rw [e]; exact hj.pv⟩

theorem StreamInv.of_eq {A : P → Prop} {c : Nat} {a : Int} {s s' : SS P O} (h : s'.reports = s.reports) (hsz : Sz s')
    (hj : StreamInv g A c a s) : StreamInv g A c a s' :=
  hj.of_infos (by rw [h]) hsz

theorem StreamInv.sent {A : P → Prop} {c : Nat} {a : Int} {s s' : SS P O} (q : P)
    (h : s'.reports = s.reports.push (.sent q)) (hsz : Sz s') (hj : StreamInv g A c a s) : StreamInv g A c a s' :=
  hj.of_infos (by rw [h, infosOf_push_sent]) hsz

theorem StreamInv.info {A : P → Prop} {c : Nat} {a : Int} {s s' : SS P O} (i : Info)
    (h : s'.reports = s.reports.push (.info i)) (hsz : Sz s') (hc : 1 ≤ c) (hd : i.depth = c) (he : a < i.eval)
    (hp : PvOK g A i) (hj : StreamInv g A c a s) : StreamInv g A c i.eval s' := by
  have e : infosOf s'.reports = infosOf s.reports ++ [i] := by rw [h, infosOf_push_info]
  refine ⟨hsz, ?_, ?_, ?_⟩
  · rw [e]
    refine fwd_snoc _ i hj.ok (by omega) fun b hb => ?_
    rcases hj.top b hb with ht | ⟨h1, h2⟩
    · left; omega
    · right; exact ⟨by omega, by omega⟩
  · rw [e]
    intro b hb
    rw [List.getLast?_concat] at hb
    cases hb
    exact .inr ⟨hd, Int.le_refl _⟩
  · rw [e]
    intro x hx
    rcases List.mem_append.mp hx with hx | hx
    · exact hj.pv x hx
    · cases List.mem_singleton.mp hx; exact hp

/-- head of the PV after `insert_into_cur_line(0, m)`; `set_principle_variation` -/
theorem pvPrefix_head (a : Array (Option Mv)) (h : 0 < a.size) (x : Option Mv) :
    x = none ∨ (pvPrefix (a.setIfInBounds 0 x)).head? = x := by
  cases x with
  | none => left; rfl
  | some v =>
    right
    unfold pvPrefix
    have : (a.setIfInBounds 0 (some v)).toList = some v :: a.toList.tail := by
      rw [Array.toList_setIfInBounds]
      cases hl : a.toList with
      | nil => rw [← Array.length_toList, hl] at h; cases h
      | cons y ys => rfl
    rw [this]
    simp

variable (g)

/-- before iteration `c` (the `K` of `getBestMove_rule`) -/
structure StreamPre (A : P → Prop) (c : Nat) (s : SS P O) : Prop where
  ok : FwdOK (infosOf s.reports)
  top : TopDepthLe (c - 1) (infosOf s.reports)
  pv : ∀ i ∈ infosOf s.reports, PvOK g A i

variable (ord : Oracle P O)

/-- the walk, for any predicate `A` of boards that the root moves have and the oracle keeps; at
    `A := fun _ => True` the order of the stream asks nothing of the oracle -/
theorem getBestMove_streamA (A : P → Prop) (fuel : Nat) (root : P) (hgen : ∀ m ∈ g.gen root .all, A m)
    (hmark : ∀ best, ∀ m ∈ markPV g best (g.gen root .all), A m)
    (hsub : ∀ o e c l, (∀ m ∈ l, A m) → ∀ x ∈ (ord o e c l).1, A x) (s : SS P O) (hs : infosOf s.reports = []) :
    FwdOK (infosOf (outState (getBestMove g ord fuel root s)).reports) ∧
    ∀ i ∈ infosOf (outState (getBestMove g ord fuel root s)).reports, PvOK g A i := by
  refine getBestMove_rule g ord (fun c s => 1 ≤ c ∧ StreamPre g A c s)
    (fun c a s => 1 ≤ c ∧ StreamInv g A c a s) (fun l => ∀ m ∈ l, A m)
    (fun s => FwdOK (infosOf s.reports) ∧ ∀ i ∈ infosOf s.reports, PvOK g A i) fuel root s
    (hQK := fun _ _ h => ⟨h.2.ok, h.2.pv⟩) (hQI := fun _ _ _ h => ⟨h.2.ok, h.2.pv⟩)
    (init := ⟨Nat.le_refl _, by rw [hs]; trivial, (by rw [hs]; intro b hb; cases hb), by rw [hs]; intro i hi; cases hi⟩)
    (hgen := hgen) (hmark := hmark) (hord := fun o e l => hsub o e _ l)
    (skip := fun c _ _ ⟨hc, hk⟩ _ =>
      ⟨Nat.le_succ_of_le hc, hk.ok, fun b hb => Nat.le_trans (hk.top b hb) (Nat.pred_le c), hk.pv⟩)
    (start := fun _ s _ ⟨hc, hk⟩ => ⟨hc, Sz_iterReset _ s, hk.ok, Nat.sub_add_cancel hc ▸ hk.top.next _, hk.pv⟩)
    (fallback := fun _ first _ _ _ _ h => ⟨h.1, h.2.sent first rfl h.2.sz⟩)
    (quiet := fun _ _ _ _ q h => ⟨h.1, h.2.of_eq q.2 (Sz_mono h.2.sz q.1)⟩)
    (accept := fun c _ _ x hA ⟨hc, hj⟩ => ?_)
    (next := fun _ _ _ _ ⟨hc, hj⟩ => ⟨Nat.le_succ_of_le hc, hj.ok, hj.top.le, hj.pv⟩)
  have hj3 : StreamInv g A c x.alpha x.s3 := hj.of_eq x.quiet.2 (Sz_mono hj.sz x.quiet.1)
  refine ⟨hc, .info _ (accepted_pushes ..) hj3.sz hc rfl x.better ⟨x.m, hA _ x.mem, ?_⟩ (hj3.sent x.m rfl hj3.sz)⟩
  have hsz2 : 0 < x.s2.cur.size := by rw [Sz_mono hj.sz x.child.1, arrSize_eq]; decide
  show _ ∨ (pvPrefix x.s3.cur).head? = _
  rw [x.cur]
  exact pvPrefix_head x.s2.cur hsz2 (g.lastMove x.m)

theorem getBestMove_stream (hord : OrdSub ord) (fuel : Nat) (root : P) (s : SS P O) (hs : s.reports = #[]) :
    FwdOK (infosOf (outState (getBestMove g ord fuel root s)).reports) ∧
    ∀ i ∈ infosOf (outState (getBestMove g ord fuel root s)).reports, PvOK g (RootSucc g root) i :=
  getBestMove_streamA g ord (RootSucc g root) fuel root (fun m hm => ⟨m, hm, Or.inl rfl⟩)
    (fun best => markPV_mem g best _) (fun o e c l h x hx => h x (hord o e c l x hx)) s (by rw [hs]; rfl)

end Walleye
