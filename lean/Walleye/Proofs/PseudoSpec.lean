/-
  The pseudo-legal targets of `get_moves` are the specification's rules of movement for an ordinary move
  (`normalRule`: no castling, no en passant), piece kind by piece kind: `getMoves_spec`.  (C01)
-/
import Walleye.Proofs.Coords
namespace Walleye

def tgtFree (P : Spec.Position) (c : Color) (t : Spec.Sq) : Bool :=
  match P.at t with
  | some x => x.color != c
  | none => true

/-- the rules of movement for an ordinary move (no castling, no en passant, the promotion flag aside).  The
    body repeats the target test and the `match pc.kind` of `Spec.pseudoLegal` (Spec/Rules.lean) without the
    en passant and castling alternatives and without the flag tests; `pseudoLegal_iff` (Proofs/PseudoLegal)
    ties the two together by `show`, so keep this in step with the pawn clause there. -/
def normalRule (P : Spec.Position) (o : Spec.Sq) (pc : Piece) (t : Spec.Sq) : Bool :=
  tgtFree P pc.color t &&
  match pc.kind with
  | .pawn =>
    if o.file == t.file then
      (P.at t).isNone &&
      (decide (((t.rank : Int) - o.rank) = Spec.fwd pc.color) ||
       (decide (((t.rank : Int) - o.rank) = 2 * Spec.fwd pc.color) && o.rank == Spec.pawnStartRank pc.color &&
        (P.at ⟨o.file, ((o.rank : Int) + Spec.fwd pc.color).toNat⟩).isNone))
    else Spec.attacksFrom P o pc t && (P.at t).isSome
  | _ => Spec.attacksFrom P o pc t

theorem normalRule_of_ne_pawn (P : Spec.Position) (o : Spec.Sq) (pc : Piece) (t : Spec.Sq) (hk : pc.kind ≠ .pawn) :
    normalRule P o pc t = (tgtFree P pc.color t && Spec.attacksFrom P o pc t) := by
  obtain ⟨c, k⟩ := pc
  cases k <;> first | rfl | exact absurd rfl hk

theorem normalRule_pawn (P : Spec.Position) (o : Spec.Sq) (c : Color) (t : Spec.Sq) :
    normalRule P o ⟨c, .pawn⟩ t = true ↔ tgtFree P c t = true ∧
      if o.file = t.file then
        (P.at t).isNone = true ∧ ((t.rank : Int) - o.rank = Spec.fwd c ∨
          ((t.rank : Int) - o.rank = 2 * Spec.fwd c ∧ o.rank = Spec.pawnStartRank c) ∧
            (P.at ⟨o.file, ((o.rank : Int) + Spec.fwd c).toNat⟩).isNone = true)
      else Spec.attacksFrom P o ⟨c, .pawn⟩ t = true ∧ (P.at t).isSome = true := by
  unfold normalRule
  by_cases hf : o.file = t.file <;>
    simp only [hf, beq_iff_eq, if_true, if_false, Bool.and_eq_true, Bool.or_eq_true, decide_eq_true_eq]

theorem pawn_rule_facts (P : Spec.Position) (o t : Spec.Sq) (c : Color) (hrule : normalRule P o ⟨c, .pawn⟩ t = true) :
    ((t.rank : Int) - o.rank = Spec.fwd c) ∨
    ((t.rank : Int) - o.rank = 2 * Spec.fwd c ∧ o.rank = Spec.pawnStartRank c ∧ o.file = t.file ∧
      (P.at ⟨o.file, ((o.rank : Int) + Spec.fwd c).toNat⟩).isNone = true) := by
  have h := ((normalRule_pawn P o c t).mp hrule).2
  by_cases hf : o.file = t.file
  · rw [if_pos hf] at h
    exact h.2.imp_right fun ⟨⟨h1, h2⟩, h3⟩ => ⟨h1, h2, hf, h3⟩
  · rw [if_neg hf, attacksFrom_pawn] at h
    exact .inl h.1.1

theorem tgtFree_iff (p : Pos) (hi : InnerOK p.board) (c : Color) (pt : Point) (h : OnBoard pt) :
    tgtFree (abs p) c (specOf pt) = true ↔ (p.board.get pt.row pt.col).isEmptyOrColor c.opp = true := by
  unfold tgtFree
  rw [at_specOf p pt h]
  have hnb := hi pt.row pt.col h
  cases hsq : p.board.get pt.row pt.col with
  | boundary => exact absurd hsq hnb
  | empty => simp [squareToOpt, Square.isEmptyOrColor]
  | full x =>
    simp only [squareToOpt, Square.isEmptyOrColor, bne_iff_ne, ne_eq, beq_iff_eq]
    cases c <;> cases hx : x.color <;> simp [Color.opp]

theorem isSome_free_iff_isColor (p : Pos) (hi : InnerOK p.board) (c : Color) (pt : Point) (h : OnBoard pt) :
    (tgtFree (abs p) c (specOf pt) = true ∧ ((abs p).at (specOf pt)).isSome = true) ↔
      (p.board.get pt.row pt.col).isColor c.opp = true := by
  rw [tgtFree_iff p hi c pt h, isSome_at_specOf p hi pt h, isEmptyOrColor_iff]
  exact ⟨fun ⟨hx, hne⟩ => hx.resolve_left fun he => (by rw [he] at hne; cases hne),
    fun hx => ⟨.inr hx, by rw [isColor_not_empty _ _ hx]; rfl⟩⟩

/-- the bridges below say "on the board, reachable, empty or enemy"; `normalRule` says "free and reachable" -/
theorem bridge_tgtFree (p : Pos) (hi : InnerOK p.board) (c : Color) (mov : Point) (R : Prop) :
    (OnBoard mov ∧ R ∧ (p.board.get mov.row mov.col).isEmptyOrColor c.opp = true) ↔
      (OnBoard mov ∧ tgtFree (abs p) c (specOf mov) = true ∧ R) :=
  and_congr_right fun h => by rw [tgtFree_iff p hi c mov h, and_comm]

theorem knight_bridge (p : Pos) (hr : RingOK p.board) (s : Spec.Sq) (hs : InB s) (c : Color) (mov : Point) :
    (∃ rc ∈ Gen.knightCords, mov = ptI (((toPt s).row : Int) + rc.1) (((toPt s).col : Int) + rc.2) ∧
      (p.board.getI (((toPt s).row : Int) + rc.1) (((toPt s).col : Int) + rc.2)).isEmptyOrColor c.opp = true) ↔
    (OnBoard mov ∧
      knightShape (Spec.iabs (((specOf mov).file : Int) - s.file)) (Spec.iabs (((specOf mov).rank : Int) - s.rank)) = true ∧
      (p.board.get mov.row mov.col).isEmptyOrColor c.opp = true) := by
  rw [probe_iff p.board hr s hs _ (·.isEmptyOrColor c.opp = true) (fun sq => isEmptyOrColor_ne_boundary sq _) mov,
    exists_toPt, mem_knightCords, ← Int.natAbs_neg ((s.rank : Int) - (specOf mov).rank), Int.neg_sub]
  simp [knightShape, Spec.iabs]

/-- the 3x3 loop of `king_moves` (in `usize` arithmetic) visits the squares at most one step away -/
theorem king_box (row col : Nat) (hr : 1 ≤ row) (hc : 1 ≤ col) (mov : Point) :
    (∃ i j : Nat, i < 3 ∧ j < 3 ∧ mov = ⟨row + i - 1, col + j - 1⟩) ↔
      ((mov.row : Int) - row).natAbs ≤ 1 ∧ ((mov.col : Int) - col).natAbs ≤ 1 := by
  constructor
  · rintro ⟨i, j, hi, hj, rfl⟩
    simp only
    omega
  · intro hb
    refine ⟨mov.row + 1 - row, mov.col + 1 - col, by omega, by omega, ?_⟩
    cases mov; simp only [Point.mk.injEq] at hb ⊢; omega

theorem king_bridge (p : Pos) (hr : RingOK p.board) (s : Spec.Sq) (hs : InB s) (c : Color) (mov : Point)
    (hown : (p.board.get (toPt s).row (toPt s).col).isEmptyOrColor c.opp = false) :
    (∃ i j : Nat, i < 3 ∧ j < 3 ∧ mov = ⟨(toPt s).row + i - 1, (toPt s).col + j - 1⟩ ∧
      (p.board.get ((toPt s).row + i - 1) ((toPt s).col + j - 1)).isEmptyOrColor c.opp = true) ↔
    (OnBoard mov ∧
      max (Spec.iabs (((specOf mov).file : Int) - s.file)) (Spec.iabs (((specOf mov).rank : Int) - s.rank)) = 1 ∧
      (p.board.get mov.row mov.col).isEmptyOrColor c.opp = true) := by
  have hto := toPt_onBoard s hs
  have hbox := king_box (toPt s).row (toPt s).col (by unfold OnBoard at hto; omega) (by unfold OnBoard at hto; omega) mov
  -- a target is not the king's own square
  have hne : (p.board.get mov.row mov.col).isEmptyOrColor c.opp = true → mov ≠ toPt s := fun he e => by
    rw [e, hown] at he; cases he
  constructor
  · rintro ⟨i, j, hi, hj, rfl, he⟩
    have hm : OnBoard _ := hr _ _ (isEmptyOrColor_ne_boundary _ _ he)
    exact ⟨hm, (kingStep_iff s hs _ hm (hne he)).mp (hbox.mp ⟨i, j, hi, hj, rfl⟩), he⟩
  · rintro ⟨hm, hsh, he⟩
    obtain ⟨i, j, hi, hj, rfl⟩ := hbox.mpr ((kingStep_iff s hs mov hm (hne he)).mpr hsh)
    exact ⟨i, j, hi, hj, rfl, he⟩

theorem slider_bridge (p : Pos) (hr : RingOK p.board) (hi : InnerOK p.board) (o : Spec.Sq) (ho : InB o) (c : Color)
    (dirs : List (Int × Int)) (shape : Nat → Nat → Bool) (hs : Rays dirs shape) (mov : Point) :
    (∃ d ∈ dirs, ∃ n : Nat, mov = rayPt (toPt o) d n ∧
      (∀ i : Nat, i < n → (rayAt p.board (toPt o) d i).isEmpty = true) ∧
      (rayAt p.board (toPt o) d n).isEmptyOrColor c.opp = true) ↔
    (OnBoard mov ∧
      (shape (Spec.iabs (((specOf mov).file : Int) - o.file)) (Spec.iabs (((specOf mov).rank : Int) - o.rank)) = true ∧
        Spec.clearBetween (abs p) o (specOf mov) = true) ∧
      (p.board.get mov.row mov.col).isEmptyOrColor c.opp = true) :=
  ((ray_iff p hr hi o ho dirs shape hs (·.isEmptyOrColor c.opp = true)
    (fun _ h => isEmptyOrColor_ne_boundary _ _ h) mov).trans (exists_toPt mov _)).trans
      (and_congr_right fun _ => and_assoc.symm)

theorem pawn_coords (o : Spec.Sq) (ho : InB o) (c : Color) (mov : Point) (hm : OnBoard mov) :
    (mov.row = ahead c (toPt o).row 1 ↔ ((specOf mov).rank : Int) - o.rank = Spec.fwd c) ∧
    (mov.row = ahead c (toPt o).row 2 ↔ ((specOf mov).rank : Int) - o.rank = 2 * Spec.fwd c) ∧
    (mov.col = (toPt o).col - 1 ↔ (specOf mov).file + 1 = o.file) ∧
    (mov.col = (toPt o).col + 1 ↔ (specOf mov).file = o.file + 1) ∧
    (mov.col = (toPt o).col ↔ (specOf mov).file = o.file) := by
  unfold InB at ho; unfold OnBoard at hm; unfold toPt specOf
  cases c <;> simp only [ahead, Spec.fwd] <;> omega

theorem doublePushRow_spec (o : Spec.Sq) (ho : InB o) (c : Color) :
    (toPt o).row = doublePushRow c ↔ o.rank = Spec.pawnStartRank c := by
  unfold InB at ho
  cases c <;>
    simp only [toPt, doublePushRow, Spec.pawnStartRank, Gen.whiteDoublePushRow, Gen.blackDoublePushRow] <;> omega

theorem pawn_bridge (p : Pos) (hr : RingOK p.board) (o : Spec.Sq) (ho : InB o) (piece : Piece) (mov : Point) :
    mov ∈ pawnMoves piece (toPt o).row (toPt o).col p.board .all ↔
      (OnBoard mov ∧
        (((specOf mov).file = o.file ∧ (p.board.get mov.row mov.col).isEmpty = true ∧
            (((specOf mov).rank : Int) - o.rank = Spec.fwd piece.color ∨
             (((specOf mov).rank : Int) - o.rank = 2 * Spec.fwd piece.color ∧ o.rank = Spec.pawnStartRank piece.color ∧
               (p.board.get (ahead piece.color (toPt o).row 1) (toPt o).col).isEmpty = true))) ∨
         (((specOf mov).file + 1 = o.file ∨ (specOf mov).file = o.file + 1) ∧
            ((specOf mov).rank : Int) - o.rank = Spec.fwd piece.color ∧
            (p.board.get mov.row mov.col).isColor piece.color.opp = true))) := by
  obtain ⟨c, k⟩ := piece
  have hdp := doublePushRow_spec o ho c
  rw [mem_pawnMoves]
  constructor
  · rintro (⟨hm, hx⟩ | ⟨_, he, hm | ⟨h1, h2, hm⟩⟩)
    · have hob : OnBoard mov := hr _ _ (isColor_ne_boundary _ _ hx)
      obtain ⟨r1, -, cl, cr, -⟩ := pawn_coords o ho c mov hob
      exact ⟨hob, Or.inr ⟨hm.imp (fun e => cl.mp (by rw [e])) (fun e => cr.mp (by rw [e])),
        r1.mp (by rcases hm with e | e <;> rw [e]), hx⟩⟩
    · have hob : OnBoard mov := by rw [hm]; exact hr _ _ (isEmpty_ne_boundary _ he)
      obtain ⟨r1, -, -, -, cm⟩ := pawn_coords o ho c mov hob
      exact ⟨hob, Or.inl ⟨cm.mp (by rw [hm]), by rw [hm]; exact he, Or.inl (r1.mp (by rw [hm]))⟩⟩
    · have hob : OnBoard mov := by rw [hm]; exact hr _ _ (isEmpty_ne_boundary _ h2)
      obtain ⟨-, r2, -, -, cm⟩ := pawn_coords o ho c mov hob
      exact ⟨hob, Or.inl ⟨cm.mp (by rw [hm]), by rw [hm]; exact h2, Or.inr ⟨r2.mp (by rw [hm]), hdp.mp h1, he⟩⟩⟩
  · rintro ⟨hob, h⟩
    obtain ⟨r1, r2, cl, cr, cm⟩ := pawn_coords o ho c mov hob
    rcases h with ⟨hf, he, h | ⟨h1, h2, h3⟩⟩ | ⟨hf, hk, hx⟩
    · have hm := Point.eq_mk (r1.mpr h) (cm.mpr hf)
      exact Or.inr ⟨rfl, by rw [hm] at he; exact he, Or.inl hm⟩
    · have hm := Point.eq_mk (r2.mpr h1) (cm.mpr hf)
      exact Or.inr ⟨rfl, h3, Or.inr ⟨hdp.mpr h2, by rw [hm] at he; exact he, hm⟩⟩
    · exact Or.inl ⟨hf.imp (fun e => Point.eq_mk (r1.mpr hk) (cl.mpr e)) (fun e => Point.eq_mk (r1.mpr hk) (cr.mpr e)), hx⟩

theorem getMoves_spec (p : Pos) (hr : RingOK p.board) (hi : InnerOK p.board) (o : Spec.Sq) (ho : InB o) (pc : Piece)
    (hpc : p.board.get (toPt o).row (toPt o).col = .full pc) (mov : Point) :
    mov ∈ getMoves pc (toPt o).row (toPt o).col p.board .all ↔
      (OnBoard mov ∧ normalRule (abs p) o pc (specOf mov) = true) := by
  have hto := toPt_onBoard o ho
  have hown : (p.board.get (toPt o).row (toPt o).col).isEmptyOrColor pc.color.opp = false := by
    rw [hpc]; cases pc with | mk c k => cases c <;> simp [Square.isEmptyOrColor, Color.opp]
  obtain ⟨c, k⟩ := pc
  unfold getMoves
  cases k with
  | knight =>
    simp only [mem_knightMoves, tgtOK, if_true]
    rw [knight_bridge p hr o ho c mov, bridge_tgtFree p hi, normalRule_of_ne_pawn _ _ ⟨c, .knight⟩ _ nofun, attacksFrom_knight,
      Bool.and_eq_true]
  | king =>
    simp only [mem_kingMoves, tgtOK, if_true]
    rw [king_bridge p hr o ho c mov hown, bridge_tgtFree p hi, normalRule_of_ne_pawn _ _ ⟨c, .king⟩ _ nofun, attacksFrom_king,
      Bool.and_eq_true, beq_iff_eq]
  | rook =>
    unfold rookMoves
    simp only [mem_slides _ (toPt o) _ _ _ hr hto rookDirs_rays.1, tgtOK, if_true]
    rw [slider_bridge p hr hi o ho c Gen.rookDirs rookShape rookDirs_rays mov, bridge_tgtFree p hi,
      normalRule_of_ne_pawn _ _ ⟨c, .rook⟩ _ nofun, attacksFrom_rook, Bool.and_eq_true, Bool.and_eq_true]
  | bishop =>
    unfold bishopMoves
    simp only [mem_slides _ (toPt o) _ _ _ hr hto bishopDirs_rays.1, tgtOK, if_true]
    rw [slider_bridge p hr hi o ho c Gen.bishopDirs bishopShape bishopDirs_rays mov, bridge_tgtFree p hi,
      normalRule_of_ne_pawn _ _ ⟨c, .bishop⟩ _ nofun, attacksFrom_bishop, Bool.and_eq_true, Bool.and_eq_true]
  | queen =>
    unfold queenMoves rookMoves bishopMoves
    simp only [List.mem_append, mem_slides _ (toPt o) _ _ _ hr hto rookDirs_rays.1,
      mem_slides _ (toPt o) _ _ _ hr hto bishopDirs_rays.1, tgtOK, if_true]
    rw [slider_bridge p hr hi o ho c Gen.rookDirs rookShape rookDirs_rays mov,
      slider_bridge p hr hi o ho c Gen.bishopDirs bishopShape bishopDirs_rays mov, bridge_tgtFree p hi, bridge_tgtFree p hi,
      ← and_or_left, ← and_or_left, or_comm, normalRule_of_ne_pawn _ _ ⟨c, .queen⟩ _ nofun, attacksFrom_queen,
      attacksFrom_bishop, attacksFrom_rook, Bool.and_eq_true, Bool.or_eq_true, Bool.and_eq_true, Bool.and_eq_true]
  | pawn =>
    simp only
    rw [pawn_bridge p hr o ho ⟨c, .pawn⟩ mov]
    apply and_congr_right
    intro hob
    have hnone := isNone_at_specOf p hi mov hob
    have hcap := isSome_free_iff_isColor p hi c mov hob
    have hin := specOf_inB mov hob
    -- the square a double step passes over
    have hmid : o.rank = Spec.pawnStartRank c →
        ((abs p).at ⟨o.file, ((o.rank : Int) + Spec.fwd c).toNat⟩).isNone =
          (p.board.get (ahead c (toPt o).row 1) (toPt o).col).isEmpty := by
      intro h1
      have hmi : InB ⟨o.file, ((o.rank : Int) + Spec.fwd c).toNat⟩ := by
        unfold InB at ho ⊢; cases c <;> simp only [Spec.fwd, Spec.pawnStartRank] at h1 ⊢ <;> omega
      have hpt : toPt ⟨o.file, ((o.rank : Int) + Spec.fwd c).toNat⟩ = ⟨ahead c (toPt o).row 1, (toPt o).col⟩ := by
        unfold toPt; cases c <;> simp only [Spec.fwd, Spec.pawnStartRank, ahead, Point.mk.injEq, and_true] at h1 ⊢ <;> omega
      rw [abs_at p _ hmi, hpt]
      exact squareToOpt_isNone _ (hi _ _ (by rw [← hpt]; exact toPt_onBoard _ hmi))
    unfold InB at hin ho
    by_cases hf : o.file = (specOf mov).file
    · simp only [normalRule_pawn, if_pos hf]
      constructor
      · rintro (⟨_, he, h⟩ | ⟨hf', _, _⟩)
        · have hnn : ((abs p).at (specOf mov)).isNone = true := by rw [hnone]; exact he
          refine ⟨by unfold tgtFree; rw [Option.isNone_iff_eq_none.mp hnn], hnn, ?_⟩
          rcases h with h | ⟨h1, h2, h3⟩
          · exact Or.inl h
          · exact Or.inr ⟨⟨h1, h2⟩, by rw [hmid h2]; exact h3⟩
        · omega
      · rintro ⟨_, hnn, h⟩
        refine Or.inl ⟨hf.symm, by rw [← hnone]; exact hnn, ?_⟩
        rcases h with h | ⟨⟨h1, h2⟩, h3⟩
        · exact Or.inl h
        · exact Or.inr ⟨h1, h2, by rw [← hmid h2]; exact h3⟩
    · simp only [normalRule_pawn, if_neg hf, attacksFrom_pawn]
      constructor
      · rintro (⟨hf', _, _⟩ | ⟨hf', hk, hx⟩)
        · exact absurd hf'.symm hf
        · obtain ⟨t1, t2⟩ := hcap.mpr hx
          exact ⟨t1, ⟨hk, by omega⟩, t2⟩
      · rintro ⟨hfree, ⟨h1, h2⟩, h3⟩
        exact Or.inr ⟨by omega, h1, hcap.mp ⟨hfree, h3⟩⟩

end Walleye
