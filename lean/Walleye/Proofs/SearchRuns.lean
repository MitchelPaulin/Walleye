/-
  What a normally finishing call of the search functions must have done ("run inversion", `…_run`),
  over the folded text of Proofs/SearchEqs.lean.  The steps between the recursive calls are
  summarised by `Bk` (Proofs/Frame): they touch the search's private bookkeeping only.  At the end,
  forward, the two ways a call of `alphaBeta` ends at once: clock expired, position repeated.
-/
import Walleye.Proofs.Frame
namespace Walleye
open DrawTable

variable {P O : Type}

theorem order_ok {ord : Oracle P O} {c : Char} {l l' : List P} {s s' : SS P O} (h : order ord c l s = .ok l' s') :
    l' = (ord s.ord s.expired c l).1 := by
  unfold order at h; cases h; rfl

theorem insertCur_ok {ply : Nat} {m : Option Mv} {s s' : SS P O} {u : Unit} (h : insertCur ply m s = .ok u s') :
    ply < s.cur.size := by
  unfold insertCur at h
  split at h
  · assumption
  · cases h

variable {g : Game P} {ord : Oracle P O} {f : ABFun P O} {p m : P} {ms : List P} {depth d1 ply : Nat} {a b beta best sc v : Int} {n : Bool}
  {s s' : SS P O}

theorem quiesceLoop_cons_run {f : P → Int → Int → M (SS P O) Int}
    (he : quiesceLoop f (m :: ms) a b s = .ok v s') :
    ∃ r s1, f m (-b) (-a) s = .ok r s1 ∧
      ((-r ≥ b ∧ v = b ∧ s' = s1) ∨
       (¬ -r ≥ b ∧ quiesceLoop f ms (if -r > a then -r else a) b s1 = .ok v s')) := by
  unfold quiesceLoop at he
  obtain ⟨r, s1, h1, he⟩ := bind_ok he
  refine ⟨r, s1, h1, ?_⟩
  dsimp only at he
  by_cases hc : -r ≥ b
  · rw [if_pos hc] at he; exact Or.inl ⟨hc, pure_ok he⟩
  · rw [if_neg hc] at he; exact Or.inr ⟨hc, he⟩

theorem quiesce_succ_run {k : Nat}
    (he : quiesce g ord (k + 1) p a b s = .ok v s') :
    (g.eval p ≥ b ∧ v = b ∧ Bk s s') ∨
    (¬ g.eval p ≥ b ∧ ∃ o e s1, Bk s s1 ∧
      quiesceLoop (quiesce g ord k) (ord o e 'Q' (g.gen p .caps)).1 (if a < g.eval p then g.eval p else a) b s1 =
        .ok v s') := by
  unfold quiesce at he
  obtain ⟨_, s0, h0, he⟩ := bind_ok he
  have k0 := nodeSearched_bk.ok h0
  dsimp only at he
  by_cases hc : g.eval p ≥ b
  · rw [if_pos hc] at he
    obtain ⟨hv, hs⟩ := pure_ok he
    exact Or.inl ⟨hc, hv, hs ▸ k0⟩
  · rw [if_neg hc] at he
    obtain ⟨moves, s1, h1, he⟩ := bind_ok he
    obtain rfl := order_ok h1
    exact Or.inr ⟨hc, _, _, s1, k0.trans ((order_bk ..).ok h1), he⟩

theorem abStep_run
    (he : abStep g f m ms d1 ply a beta best sc s = .ok v s') :
    (sc > best ∧ sc ≥ beta ∧ v = sc ∧ Bk s s') ∨
    (sc > best ∧ sc < beta ∧ ∃ s1, Bk s s1 ∧ abLoop g f ms d1 ply a beta sc s1 = .ok v s') ∨
    (sc ≤ best ∧ abLoop g f ms d1 ply a beta best s = .ok v s') := by
  unfold abStep at he
  by_cases h1 : sc > best
  · rw [if_pos h1] at he
    by_cases h2 : sc ≥ beta
    · rw [if_pos h2] at he
      refine Or.inl ⟨h1, h2, ?_⟩
      by_cases h3 : g.oh m = 0
      · rw [if_pos h3] at he
        obtain ⟨_, s1, hk, he⟩ := bind_ok he
        obtain ⟨hv, hs⟩ := pure_ok he
        exact ⟨hv, hs ▸ (insertKiller_bk ..).ok hk⟩
      · rw [if_neg h3] at he
        obtain ⟨hv, hs⟩ := pure_ok he
        exact ⟨hv, hs ▸ Bk.refl s⟩
    · rw [if_neg h2] at he
      obtain ⟨_, s1, hk, he⟩ := bind_ok he
      exact Or.inr (Or.inl ⟨h1, by omega, s1, setPV_bk.ok hk, he⟩)
  · rw [if_neg h1] at he
    exact Or.inr (Or.inr ⟨by omega, he⟩)

theorem abLoop_cons_run
    (he : abLoop g f (m :: ms) d1 ply a beta best s = .ok v s') :
    ∃ s1 r0 s2, ply < s.cur.size ∧ Bk s s1 ∧ f m d1 (ply + 1) (-a - 1) (-a) true s1 = .ok r0 s2 ∧
      ((¬ (-r0 > a ∧ -r0 < beta) ∧ abStep g f m ms d1 ply a beta best (-r0) s2 = .ok v s') ∨
       ((-r0 > a ∧ -r0 < beta) ∧ ∃ r1 s3, f m d1 (ply + 1) (-beta) (-a) true s2 = .ok r1 s3 ∧
          abStep g f m ms d1 ply (max a (-r1)) beta best (-r1) s3 = .ok v s')) := by
  rw [abLoop_cons] at he
  obtain ⟨_, s1, h1, he⟩ := bind_ok he
  obtain ⟨r0, s2, h2, he⟩ := bind_ok he
  refine ⟨s1, r0, s2, insertCur_ok h1, (insertCur_bk ..).ok h1, h2, ?_⟩
  by_cases hre : -r0 > a ∧ -r0 < beta
  · rw [if_pos hre] at he
    obtain ⟨r1, s3, h3, he⟩ := bind_ok he
    rw [show (if -r1 > a then -r1 else a) = max a (-r1) by split <;> omega] at he
    exact Or.inr ⟨hre, r1, s3, h3, he⟩
  · rw [if_neg hre] at he
    exact Or.inl ⟨hre, he⟩

theorem abFirst_run {m0 : P} {rest : List P}
    (he : abFirst g f m0 rest d1 ply a b s = .ok v s') :
    ∃ r0 s1, f m0 d1 (ply + 1) (-b) (-a) true s = .ok r0 s1 ∧
      ((-r0 > a ∧ -r0 ≥ b ∧ v = -r0 ∧ s' = s1) ∨
       (-r0 > a ∧ -r0 < b ∧ ∃ s2, Bk s1 s2 ∧ abLoop g f rest d1 ply (-r0) b (-r0) s2 = .ok v s') ∨
       (-r0 ≤ a ∧ abLoop g f rest d1 ply a b (-r0) s1 = .ok v s')) := by
  unfold abFirst at he
  obtain ⟨r0, s1, h1, he⟩ := bind_ok he
  refine ⟨r0, s1, h1, ?_⟩
  by_cases hbest : -r0 > a
  · rw [if_pos hbest] at he
    by_cases hcut : -r0 ≥ b
    · rw [if_pos hcut] at he
      exact Or.inl ⟨hbest, hcut, pure_ok he⟩
    · rw [if_neg hcut] at he
      obtain ⟨_, s2, h2, he⟩ := bind_ok he
      exact Or.inr (Or.inl ⟨hbest, by omega, s2, setPV_bk.ok h2, he⟩)
  · rw [if_neg hbest] at he
    exact Or.inr (Or.inr ⟨by omega, he⟩)

theorem abRest_run
    (he : abRest g ord f p depth ply a b s = .ok v s') :
    (g.gen p .all = [] ∧ v = (if g.inCheck p then -(Gen.mateScore - ply) else 0) ∧ s' = s) ∨
    (g.gen p .all ≠ [] ∧ ∃ pvm ks o e m0 rest s1, ply < s.cur.size ∧ Bk s s1 ∧
      m0 :: rest = (ord o e 'A' (rankMoves g pvm ks (g.gen p .all))).1 ∧
      abFirst g f m0 rest (depth - 1) ply a b s1 = .ok v s') := by
  unfold abRest at he
  dsimp only at he
  cases hgen : g.gen p .all with
  | nil =>
    rw [hgen] at he
    exact Or.inl ⟨rfl, pure_ok he⟩
  | cons g0 gs =>
    rw [hgen] at he
    simp only [List.isEmpty_cons, Bool.false_eq_true, if_false] at he
    obtain ⟨pvm, s1, h1, he⟩ := bind_ok he
    obtain ⟨ks, s2, h2, he⟩ := bind_ok he
    obtain ⟨moves, s3, h3, he⟩ := bind_ok he
    have hmoves := order_ok h3
    have k := (((getPV_bk _).ok h1).trans ((getKillers_bk _).ok h2)).trans ((order_bk ..).ok h3)
    cases moves with
    | nil => cases he
    | cons m0 rest =>
      dsimp only at he
      obtain ⟨_, s4, h4, he⟩ := bind_ok he
      have hply := insertCur_ok h4
      have k4 := (insertCur_bk ..).ok h4
      rw [k.size] at hply
      refine Or.inr ⟨by simp, pvm, ks, s2.ord, s2.expired, m0, rest, ?_⟩
      by_cases hoh : g.oh m0 ≠ Gen.posInf
      · rw [if_pos hoh] at he
        obtain ⟨_, s5, h5, he⟩ := bind_ok he
        exact ⟨s5, hply, (k.trans k4).trans (setPV_bk.ok h5), hmoves, he⟩
      · rw [if_neg hoh] at he
        exact ⟨s4, hply, k.trans k4, hmoves, he⟩

theorem abNode_run
    (he : abNode g ord f p depth ply a b n s = .ok v s') :
    abRest g ord f p depth ply a b s = .ok v s' ∨
    ((n = true ∧ depth ≥ Gen.nullMinDepth ∧ ¬ g.inCheck p = true) ∧
      ∃ r s1, f (g.null p) (depth - Gen.nullReduction) (ply + Gen.nullPlyJump) (-b) (-b + 1) false s = .ok r s1 ∧
        ((-r ≥ b ∧ v = b ∧ s' = s1) ∨ abRest g ord f p depth ply a b s1 = .ok v s')) := by
  unfold abNode at he
  by_cases hnull : n = true ∧ depth ≥ Gen.nullMinDepth ∧ ¬ g.inCheck p = true
  · rw [if_pos hnull] at he
    obtain ⟨r, s1, h1, he⟩ := bind_ok he
    refine Or.inr ⟨hnull, r, s1, h1, ?_⟩
    by_cases hp : -r ≥ b
    · rw [if_pos hp] at he; exact Or.inl ⟨hp, pure_ok he⟩
    · rw [if_neg hp] at he; exact Or.inr he
  · rw [if_neg hnull] at he
    exact Or.inl he

theorem abBody_run
    (he : abBody g ord f p depth ply a b n s = .ok v s') :
    ((depth = 0 ∧ ¬ g.inCheck p = true) ∧ quiesce g ord qFuel p a b s = .ok v s') ∨
    (¬ (depth = 0 ∧ ¬ g.inCheck p = true) ∧
      ((max a (-Gen.mateScore + ply) ≥ min b (Gen.mateScore - ply) ∧ v = max a (-Gen.mateScore + ply) ∧ s' = s) ∨
       (max a (-Gen.mateScore + ply) < min b (Gen.mateScore - ply) ∧
        abNode g ord f p (if depth = 0 then 1 else depth) ply (max a (-Gen.mateScore + ply))
          (min b (Gen.mateScore - ply)) n s = .ok v s'))) := by
  rw [abBody_eq] at he
  by_cases hq : depth = 0 ∧ ¬ g.inCheck p = true
  · rw [if_pos hq] at he; exact Or.inl ⟨hq, he⟩
  · rw [if_neg hq] at he
    refine Or.inr ⟨hq, ?_⟩
    by_cases hc : max a (-Gen.mateScore + ply) ≥ min b (Gen.mateScore - ply)
    · rw [if_pos hc] at he; exact Or.inl ⟨hc, pure_ok he⟩
    · rw [if_neg hc] at he; exact Or.inr ⟨by omega, he⟩

theorem alphaBeta_succ_run {k d : Nat}
    (he : alphaBeta g ord (k + 1) p d ply a b n s = .ok v s') :
    ∃ tk s1, tick s = .ok tk s1 ∧
      ((tk = true ∧ v = -Gen.posInf ∧ s' = s1) ∨
       (tk = false ∧ ∃ s2, Bk s1 s2 ∧
         ((s2.table.isThreefold (g.key p) = true ∧ v = 0 ∧ s' = s2) ∨
          (s2.table.isThreefold (g.key p) = false ∧ ∃ s3 s4, tableAdd (g.key p) s2 = .ok () s3 ∧
            abBody g ord (alphaBeta g ord k) p d ply a b n s3 = .ok v s4 ∧
            tableRemove (g.key p) s4 = .ok () s')))) := by
  unfold alphaBeta at he
  obtain ⟨tk, s1, ht, he⟩ := bind_ok he
  refine ⟨tk, s1, ht, ?_⟩
  cases tk with
  | true => exact Or.inl ⟨rfl, pure_ok he⟩
  | false =>
    simp only [Bool.false_eq_true, if_false] at he
    obtain ⟨_, s2, h2, he⟩ := bind_ok he
    obtain ⟨sg, s3, h3, he⟩ := bind_ok he
    unfold M.get at h3
    cases h3
    refine Or.inr ⟨rfl, s2, nodeSearched_bk.ok h2, ?_⟩
    cases h3f : s2.table.isThreefold (g.key p) with
    | true =>
      simp only [h3f, if_true] at he
      exact Or.inl ⟨rfl, pure_ok he⟩
    | false =>
      simp only [h3f, Bool.false_eq_true, if_false] at he
      obtain ⟨_, s4, h4, he⟩ := bind_ok he
      obtain ⟨r, s5, h5, he⟩ := bind_ok he
      obtain ⟨_, s6, h6, he⟩ := bind_ok he
      obtain ⟨rfl, rfl⟩ := pure_ok he
      exact Or.inr ⟨rfl, s4, s5, h4, h5, h6⟩

variable (g ord)

theorem alphaBeta_aborted (fuel : Nat) (p : P) (d ply : Nat) (a b : Int) (n : Bool) (s : SS P O)
    (hx : s.asked.expired = true) : alphaBeta g ord (fuel + 1) p d ply a b n s = .ok (-Gen.posInf) s.asked := by
  unfold alphaBeta
  rw [bind_of_ok (tick_def s), hx]
  rfl

theorem alphaBeta_repeated (fuel : Nat) (c : P) (d ply : Nat) (a b : Int) (n : Bool) (s : SS P O)
    (hx : s.asked.expired = false) (hrep : count s.table (g.key c) ≥ 2) :
    ∃ s2, alphaBeta g ord (fuel + 1) c d ply a b n s = .ok 0 s2 ∧ s2.table = s.table ∧ s2.reports = s.reports := by
  refine ⟨{ s.asked with nodes := s.nodes + 1 }, ?_, rfl, rfl⟩
  unfold alphaBeta
  rw [bind_of_ok (tick_def s), hx]
  simp only [Bool.false_eq_true, if_false]
  rw [bind_of_ok (show (nodeSearched : M (SS P O) Unit) _ = .ok () _ from rfl),
    bind_of_ok (show (M.get : M (SS P O) (SS P O)) _ = .ok _ _ from rfl)]
  simp only [show isThreefold s.asked.table (g.key c) = true from decide_eq_true hrep, if_true]
  rfl

theorem alphaBeta_repeated_run {fuel : Nat} {c : P} {d ply : Nat} {a b : Int} {n : Bool} {s s2 : SS P O} {r : Int}
    (he : alphaBeta g ord (fuel + 1) c d ply a b n s = .ok r s2) (hnx : s2.expired = false)
    (hrep : isThreefold s.table (g.key c) = true) : r = 0 := by
  cases hx : s.asked.expired with
  | false =>
    obtain ⟨_, h, -⟩ := alphaBeta_repeated g ord fuel c d ply a b n s hx (of_decide_eq_true hrep)
    rw [h] at he; cases he; rfl
  | true =>
    rw [alphaBeta_aborted g ord fuel c d ply a b n s hx] at he
    cases he
    rw [hx] at hnx; cases hnx

end Walleye
