/-
  Where mailbox coordinates meet the specification's squares.  `toPt` / `specOf` translate squares,
  `abs_at` reads the abstraction square by square (under `InnerOK`, no sentinel on the 8x8 part, "empty"
  and `none` are the same), and a probe of the mailbox at an integer offset from `toPt s` reads the
  specification square displaced by that offset, or a sentinel (`getI_toPt`, `getI_toPt_of`).  On these
  rest the two theorems check detection and move generation share: `probe_iff` (what probes at a list of
  offsets find: knight, pawn attacks) and `ray_iff` (what is seen along rays: `Spec.clearBetween` is the walk
  over empty squares).  The king is not probed for: both compare coordinates (`kingStep_iff`).
  `Spec.attacksFrom` is read kind by kind, in the same terms (`attacksFrom_pawn` … `attacksFrom_queen`).
-/
import Walleye.Proofs.Check
import Walleye.Proofs.Key
import Walleye.Spec.Abs
namespace Walleye

def toPt (s : Spec.Sq) : Point := ⟨9 - s.rank, s.file + 2⟩

def specOf (pt : Point) : Spec.Sq := ⟨pt.col - 2, 9 - pt.row⟩

def InB (s : Spec.Sq) : Prop := s.file < 8 ∧ s.rank < 8

instance (s : Spec.Sq) : Decidable (InB s) := by unfold InB; infer_instance

/-- no sentinel on the 8x8 part (`RingOK` is the converse: nothing but sentinels outside it).  Then `squareToOpt`
    maps only empty squares to `none` (`squareToOpt_isNone`). -/
def InnerOK (b : Board) : Prop := ∀ r c, OnBoard ⟨r, c⟩ → b.get r c ≠ .boundary

theorem innerOK_set (b : Board) (pt : Point) (v : Square) (hi : InnerOK b) (hv : v ≠ .boundary) :
    InnerOK (b.set pt.row pt.col v) := by
  intro r c hob
  by_cases he : pt.row = r ∧ pt.col = c
  · obtain ⟨rfl, rfl⟩ := he
    rw [Board.get_set_eq _ _ _ _ hob.lt.1 hob.lt.2]; exact hv
  · rw [Board.get_set_ne _ _ _ _ _ _ he]; exact hi r c hob

theorem toPt_onBoard (s : Spec.Sq) (h : InB s) : OnBoard (toPt s) := by
  unfold toPt OnBoard InB at *; simp only; omega

theorem specOf_inB (pt : Point) (h : OnBoard pt) : InB (specOf pt) := by
  unfold OnBoard at h; unfold InB specOf; simp only; omega

theorem toPt_specOf (pt : Point) (h : OnBoard pt) : toPt (specOf pt) = pt := by
  unfold OnBoard at h
  cases pt with
  | mk r c => unfold toPt specOf; simp only at *; congr 1 <;> omega

theorem specOf_toPt (s : Spec.Sq) (h : InB s) : specOf (toPt s) = s := by
  unfold InB at h
  cases s with
  | mk f r => unfold toPt specOf; simp only at *; congr 1 <;> omega

theorem specOf_inj (a b : Point) (ha : OnBoard a) (hb : OnBoard b) (e : specOf a = specOf b) : a = b := by
  rw [← toPt_specOf a ha, ← toPt_specOf b hb, e]

theorem exists_toPt (mov : Point) (F : Spec.Sq → Prop) :
    (∃ s, InB s ∧ mov = toPt s ∧ F s) ↔ OnBoard mov ∧ F (specOf mov) :=
  ⟨fun ⟨s, hs, e, h⟩ => by rw [e, specOf_toPt s hs]; exact ⟨toPt_onBoard s hs, h⟩,
   fun ⟨hm, h⟩ => ⟨_, specOf_inB _ hm, (toPt_specOf _ hm).symm, h⟩⟩

theorem mem_allSquares (s : Spec.Sq) : s ∈ Spec.allSquares ↔ InB s := by
  unfold Spec.allSquares InB
  simp only [List.mem_flatMap, List.mem_map, List.mem_range]
  constructor
  · rintro ⟨r, hr, f, hf, rfl⟩; exact ⟨hf, hr⟩
  · intro ⟨h1, h2⟩; exact ⟨s.rank, h2, s.file, h1, rfl⟩

def sqIdx (s : Spec.Sq) : Nat := s.rank * 8 + s.file

theorem allSquares_nodup : Spec.allSquares.Nodup :=
  nodup_grid _ List.nodup_range 8 _ fun i _ i' _ j j' e => by
    simp only [Spec.Sq.mk.injEq] at e; exact ⟨e.2, e.1⟩

theorem filter_eq_singleton {α : Type} (f : α → Bool) (l : List α) (hnd : l.Nodup) (x : α) (hx : x ∈ l)
    (hfx : f x = true) (hu : ∀ y ∈ l, f y = true → y = x) : l.filter f = [x] := by
  induction l with
  | nil => cases hx
  | cons a as ih =>
    have hnd' := (List.nodup_cons.mp hnd)
    by_cases ha : a = x
    · subst ha
      have : as.filter f = [] := List.filter_eq_nil_iff.mpr fun y hy hfy =>
        hnd'.1 (hu y (List.mem_cons_of_mem _ hy) hfy ▸ hy)
      rw [List.filter_cons_of_pos hfx, this]
    · have hxa : x ∈ as := (List.mem_cons.mp hx).resolve_left (Ne.symm ha)
      rw [List.filter_cons_of_neg fun hh => ha (hu a (by simp) hh)]
      exact ih hnd'.2 hxa (fun y hy hfy => hu y (by simp [hy]) hfy)

theorem iabs_sub_comm (a b : Int) : Spec.iabs (a - b) = Spec.iabs (b - a) := by unfold Spec.iabs; omega

theorem kingStep_iff (s : Spec.Sq) (hs : InB s) (mov : Point) (hm : OnBoard mov) (hne : mov ≠ toPt s) :
    (((mov.row : Int) - (toPt s).row).natAbs ≤ 1 ∧ ((mov.col : Int) - (toPt s).col).natAbs ≤ 1) ↔
      max (Spec.iabs (((specOf mov).file : Int) - s.file)) (Spec.iabs (((specOf mov).rank : Int) - s.rank)) = 1 := by
  have hz : ¬ ((specOf mov).file = s.file ∧ (specOf mov).rank = s.rank) := fun ⟨a, b⟩ =>
    hne (by rw [← toPt_specOf mov hm]; unfold toPt; rw [a, b])
  unfold InB at hs; unfold OnBoard at hm
  -- rows run against ranks
  rw [show (mov.row : Int) - (toPt s).row = -(((specOf mov).rank : Int) - s.rank) by unfold toPt specOf; simp only; omega,
    show (mov.col : Int) - (toPt s).col = ((specOf mov).file : Int) - s.file by unfold toPt specOf; simp only; omega,
    Int.natAbs_neg]
  unfold Spec.iabs
  omega

theorem abs_at (p : Pos) (s : Spec.Sq) (h : InB s) :
    (abs p).at s = squareToOpt (p.board.get (toPt s).row (toPt s).col) := by
  unfold InB at h
  unfold Spec.Position.at abs toPt
  simp only [h, and_self, if_true]
  have hlt : s.rank * 8 + s.file < 64 := by omega
  rw [Array.getD_eq_getD_getElem?, Array.getElem?_ofFn]
  simp only [hlt, dite_true, Option.getD_some]
  have e1 : (s.rank * 8 + s.file) / 8 = s.rank := by omega
  have e2 : (s.rank * 8 + s.file) % 8 = s.file := by omega
  rw [e1, e2]

theorem abs_at_out (p : Pos) (s : Spec.Sq) (h : ¬ InB s) : (abs p).at s = none := by
  unfold InB at h
  unfold Spec.Position.at
  rw [if_neg h]

theorem at_specOf (p : Pos) (pt : Point) (h : OnBoard pt) :
    (abs p).at (specOf pt) = squareToOpt (p.board.get pt.row pt.col) := by
  rw [abs_at p _ (specOf_inB pt h), toPt_specOf pt h]

theorem squareToOpt_some (sq : Square) (pc : Piece) : squareToOpt sq = some pc ↔ sq = .full pc := by
  cases sq <;> simp [squareToOpt]

theorem at_iff_get (p : Pos) (s : Spec.Sq) (hs : InB s) (pc : Piece) :
    (abs p).at s = some pc ↔ p.board.get (toPt s).row (toPt s).col = .full pc := by
  rw [abs_at p s hs]; exact squareToOpt_some _ _

theorem get_of_at (p : Pos) (s : Spec.Sq) (hs : InB s) (pc : Piece) (hat : (abs p).at s = some pc) :
    p.board.get (toPt s).row (toPt s).col = .full pc := (at_iff_get p s hs pc).mp hat

theorem at_of_get (p : Pos) (s : Spec.Sq) (hs : InB s) (pc : Piece)
    (hg : p.board.get (toPt s).row (toPt s).col = .full pc) : (abs p).at s = some pc := (at_iff_get p s hs pc).mpr hg

theorem squareToOpt_isNone (sq : Square) (h : sq ≠ .boundary) : (squareToOpt sq).isNone = sq.isEmpty := by
  cases sq <;> simp [squareToOpt, Square.isEmpty] at *

theorem isNone_at_specOf (p : Pos) (hi : InnerOK p.board) (pt : Point) (h : OnBoard pt) :
    ((abs p).at (specOf pt)).isNone = (p.board.get pt.row pt.col).isEmpty := by
  rw [at_specOf p pt h, squareToOpt_isNone _ (hi pt.row pt.col h)]

theorem isSome_at_specOf (p : Pos) (hi : InnerOK p.board) (pt : Point) (hpt : OnBoard pt) :
    ((abs p).at (specOf pt)).isSome = !(p.board.get pt.row pt.col).isEmpty := by
  rw [← isNone_at_specOf p hi pt hpt]; cases (abs p).at (specOf pt) <;> rfl

def shift (s : Spec.Sq) (df dk : Int) : Spec.Sq := ⟨((s.file : Int) + df).toNat, ((s.rank : Int) + dk).toNat⟩

theorem shift_inB (o : Spec.Sq) (x y : Int) (hx : 0 ≤ o.file + x ∧ o.file + x < 8) (hy : 0 ≤ o.rank + y ∧ o.rank + y < 8) :
    InB (shift o x y) ∧ ((shift o x y).file : Int) = o.file + x ∧ ((shift o x y).rank : Int) = o.rank + y := by
  unfold InB shift
  simp only
  omega

/-- rows run against ranks: the row offset to `t` is `s.rank - t.rank` -/
theorem getI_toPt_of (b : Board) (s t : Spec.Sq) (hs : InB s) (ht : InB t) :
    ptI ((toPt s).row + ((s.rank : Int) - t.rank)) ((toPt s).col + ((t.file : Int) - s.file)) = toPt t ∧
    b.getI ((toPt s).row + ((s.rank : Int) - t.rank)) ((toPt s).col + ((t.file : Int) - s.file)) =
      b.get (toPt t).row (toPt t).col := by
  unfold InB at *
  unfold Board.getI ptI toPt
  simp only
  rw [if_pos ⟨by omega, by omega⟩]
  exact ⟨by congr 1 <;> omega, by congr 1 <;> omega⟩

theorem getI_toPt (b : Board) (hr : RingOK b) (s : Spec.Sq) (hs : InB s) (dr dc : Int)
    (h : b.getI ((toPt s).row + dr) ((toPt s).col + dc) ≠ .boundary) :
    InB (shift s dc (-dr)) ∧ ((shift s dc (-dr)).file : Int) = s.file + dc ∧
      ((shift s dc (-dr)).rank : Int) = s.rank - dr ∧
      ptI ((toPt s).row + dr) ((toPt s).col + dc) = toPt (shift s dc (-dr)) ∧
      b.getI ((toPt s).row + dr) ((toPt s).col + dc) =
        b.get (toPt (shift s dc (-dr))).row (toPt (shift s dc (-dr))).col := by
  have hb : 2 ≤ ((toPt s).row : Int) + dr ∧ ((toPt s).row : Int) + dr ≤ 9 ∧
      2 ≤ ((toPt s).col : Int) + dc ∧ ((toPt s).col : Int) + dc ≤ 9 :=
    Classical.byContradiction fun hb => h (offboard_boundary b hr _ _ hb)
  unfold InB at hs
  unfold toPt at hb
  simp only at hb
  obtain ⟨h1, h2, h3⟩ := shift_inB s dc (-dr) (by omega) (by omega)
  have := getI_toPt_of b s _ hs h1
  rw [h2, h3, show (s.rank : Int) - (s.rank + -dr) = dr by omega, show (s.file : Int) + dc - s.file = dc by omega] at this
  exact ⟨h1, h2, by omega, this⟩

theorem probe_iff (b : Board) (hr : RingOK b) (o : Spec.Sq) (ho : InB o) (offs : List (Int × Int))
    (Q : Square → Prop) (hQ : ∀ sq, Q sq → sq ≠ .boundary) (mov : Point) :
    (∃ rc ∈ offs, mov = ptI ((toPt o).row + rc.1) ((toPt o).col + rc.2) ∧
      Q (b.getI ((toPt o).row + rc.1) ((toPt o).col + rc.2))) ↔
    ∃ s, InB s ∧ mov = toPt s ∧ ((o.rank : Int) - s.rank, (s.file : Int) - o.file) ∈ offs ∧
      Q (b.get mov.row mov.col) := by
  constructor
  · rintro ⟨rc, hrc, rfl, hq⟩
    obtain ⟨hin, hf, hk, hp, e⟩ := getI_toPt b hr o ho rc.1 rc.2 (hQ _ hq)
    refine ⟨_, hin, hp, ?_, by rw [hp, ← e]; exact hq⟩
    rw [show ((o.rank : Int) - (shift o rc.2 (-rc.1)).rank, ((shift o rc.2 (-rc.1)).file : Int) - o.file) = rc from
      Prod.ext (by simp only; omega) (by simp only; omega)]
    exact hrc
  · rintro ⟨s, hs, rfl, hrc, hq⟩
    obtain ⟨hp, e⟩ := getI_toPt_of b o s ho hs
    exact ⟨_, hrc, hp.symm, by rw [e]; exact hq⟩

theorem probe_any (b : Board) (hr : RingOK b) (o : Spec.Sq) (ho : InB o) (offs : List (Int × Int))
    (Q : Square → Prop) (hQ : ∀ sq, Q sq → sq ≠ .boundary) :
    (∃ rc ∈ offs, Q (b.getI ((toPt o).row + rc.1) ((toPt o).col + rc.2))) ↔
    ∃ s, InB s ∧ ((o.rank : Int) - s.rank, (s.file : Int) - o.file) ∈ offs ∧
      Q (b.get (toPt s).row (toPt s).col) :=
  ⟨fun ⟨rc, hrc, hq⟩ =>
    let ⟨s, hs, e, h, q⟩ := (probe_iff b hr o ho offs Q hQ _).mp ⟨rc, hrc, rfl, hq⟩; ⟨s, hs, h, e ▸ q⟩,
   fun ⟨s, hs, h⟩ =>
    let ⟨rc, hrc, _, hq⟩ := (probe_iff b hr o ho offs Q hQ (toPt s)).mpr ⟨s, hs, rfl, h⟩; ⟨rc, hrc, hq⟩⟩

/-! A line is given by a unit step and a number of steps; `e + i * e` is `i + 1` steps of `e`. -/

theorem neg_steps (i : Nat) (e : Int) : -e + i * -e = -(e + i * e) := by rw [Int.mul_neg, Int.neg_add]

theorem sgn_steps (e : Int) (he : e = 1 ∨ e = -1 ∨ e = 0) (n : Nat) :
    Spec.sgn (e + n * e) = e ∧ Spec.iabs (e + n * e) ≤ n + 1 ∧ (e ≠ 0 → Spec.iabs (e + n * e) = n + 1) := by
  unfold Spec.sgn Spec.iabs
  rcases he with rfl | rfl | rfl
  · rw [if_pos (by omega)]; exact ⟨rfl, by omega, fun _ => by omega⟩
  · rw [if_neg (by omega), if_pos (by omega)]; exact ⟨rfl, by omega, fun _ => by omega⟩
  · rw [if_neg (by omega), if_neg (by omega)]; exact ⟨rfl, by omega, fun h => absurd rfl h⟩

theorem steps_between (e : Int) (he : e = 1 ∨ e = -1 ∨ e = 0) (i n : Nat) (hi : i ≤ n) :
    (0 ≤ e + i * e ∧ e + i * e ≤ e + n * e) ∨ (e + n * e ≤ e + i * e ∧ e + i * e ≤ 0) := by
  rcases he with rfl | rfl | rfl <;> omega

/-- the specification's direction of a mailbox direction: rows run against ranks -/
theorem UnitDir.spec {d : Int × Int} (h : UnitDir d) : UnitDir (d.2, -d.1) := by
  obtain ⟨h1, h2, h3⟩ := h
  exact ⟨h2, by simp only; omega, by simp only; omega⟩

theorem UnitDir.neg {e : Int × Int} (h : UnitDir e) : UnitDir (-e.1, -e.2) := by
  obtain ⟨h1, h2, h3⟩ := h
  exact ⟨by simp only; omega, by simp only; omega, by simp only; omega⟩

theorem clearBetween_steps (P : Spec.Position) (s t : Spec.Sq) (e : Int × Int) (he : UnitDir e) (n : Nat)
    (hf : (t.file : Int) - s.file = e.1 + n * e.1) (hk : (t.rank : Int) - s.rank = e.2 + n * e.2) :
    Spec.clearBetween P s t = true ↔
      ∀ i : Nat, i < n → (P.at (shift s (e.1 + i * e.1) (e.2 + i * e.2))).isNone = true := by
  obtain ⟨h1, h2, h3⟩ := he
  obtain ⟨s1, l1, a1⟩ := sgn_steps e.1 h1 n
  obtain ⟨s2, l2, a2⟩ := sgn_steps e.2 h2 n
  have hmax : max (Spec.iabs (e.1 + n * e.1)) (Spec.iabs (e.2 + n * e.2)) - 1 = n := by
    generalize Spec.iabs (e.1 + n * e.1) = x at *
    generalize Spec.iabs (e.2 + n * e.2) = y at *
    omega
  unfold Spec.clearBetween shift
  simp only [hf, hk, s1, s2, hmax, List.all_eq_true, List.mem_range, succ_mul_int]

/-- one coordinate of: `i + 1` steps back from the far end is `n - i` steps from the near end -/
theorem steps_flip (a b : Nat) (e : Int) (he : e = 1 ∨ e = -1 ∨ e = 0) (n i : Nat) (hi : i < n)
    (h : (b : Int) - a = e + n * e) :
    (b : Int) + (-e + i * -e) = (a : Int) + (e + ((n - 1 - i : Nat) : Int) * e) := by
  rcases he with rfl | rfl | rfl <;> omega

theorem clearBetween_symm (P : Spec.Position) (s t : Spec.Sq) (e : Int × Int) (he : UnitDir e) (n : Nat)
    (hf : (t.file : Int) - s.file = e.1 + n * e.1) (hk : (t.rank : Int) - s.rank = e.2 + n * e.2) :
    Spec.clearBetween P s t = Spec.clearBetween P t s := by
  rw [Bool.eq_iff_iff, clearBetween_steps P s t e he n hf hk,
    clearBetween_steps P t s _ he.neg n (by rw [neg_steps]; omega) (by rw [neg_steps]; omega)]
  have flip : ∀ i : Nat, i < n → shift t (-e.1 + i * -e.1) (-e.2 + i * -e.2) =
      shift s (e.1 + ((n - 1 - i : Nat) : Int) * e.1) (e.2 + ((n - 1 - i : Nat) : Int) * e.2) := fun i hi => by
    unfold shift
    rw [steps_flip s.file t.file e.1 he.1 n i hi hf, steps_flip s.rank t.rank e.2 he.2.1 n i hi hk]
  constructor
  · intro h i hi
    rw [flip i hi]; exact h _ (by omega)
  · intro h i hi
    have := h (n - 1 - i) (by omega)
    rw [flip _ (by omega), show n - 1 - (n - 1 - i) = i by omega] at this
    exact this

theorem ray_toPt (b : Board) (hr : RingOK b) (o : Spec.Sq) (ho : InB o) (d : Int × Int) (i : Nat)
    (h : rayAt b (toPt o) d i ≠ .boundary) :
    InB (shift o (d.2 + i * d.2) (-d.1 + i * -d.1)) ∧
      ((shift o (d.2 + i * d.2) (-d.1 + i * -d.1)).file : Int) - o.file = d.2 + i * d.2 ∧
      ((shift o (d.2 + i * d.2) (-d.1 + i * -d.1)).rank : Int) - o.rank = -d.1 + i * -d.1 ∧
      rayPt (toPt o) d i = toPt (shift o (d.2 + i * d.2) (-d.1 + i * -d.1)) ∧
      rayAt b (toPt o) d i = b.get (toPt (shift o (d.2 + i * d.2) (-d.1 + i * -d.1))).row
        (toPt (shift o (d.2 + i * d.2) (-d.1 + i * -d.1))).col := by
  unfold rayAt at h
  unfold rayAt rayPt
  rw [Int.add_assoc, Int.add_assoc] at h ⊢
  obtain ⟨h1, h2, h3, h4, h5⟩ := getI_toPt b hr o ho _ _ h
  rw [neg_steps]
  exact ⟨h1, by omega, by omega, h4, h5⟩

theorem ray_toPt_of (b : Board) (o s : Spec.Sq) (ho : InB o) (hs : InB s) (d : Int × Int) (i : Nat)
    (hf : (s.file : Int) - o.file = d.2 + i * d.2) (hk : (s.rank : Int) - o.rank = -d.1 + i * -d.1) :
    rayPt (toPt o) d i = toPt s ∧ rayAt b (toPt o) d i = b.get (toPt s).row (toPt s).col := by
  unfold rayAt rayPt
  rw [neg_steps] at hk
  rw [Int.add_assoc, Int.add_assoc, ← hf, show d.1 + i * d.1 = (o.rank : Int) - s.rank by omega]
  exact getI_toPt_of b o s ho hs

theorem at_ray (p : Pos) (hr : RingOK p.board) (o : Spec.Sq) (ho : InB o) (d : Int × Int) (i : Nat)
    (h : rayAt p.board (toPt o) d i ≠ .boundary) :
    ((abs p).at (shift o (d.2 + i * d.2) (-d.1 + i * -d.1))).isNone = (rayAt p.board (toPt o) d i).isEmpty := by
  obtain ⟨hin, -, -, -, e⟩ := ray_toPt p.board hr o ho d i h
  rw [abs_at p _ hin, ← e, squareToOpt_isNone _ h]

/-- `shape` (of the absolute file and rank displacement) describes the squares on the rays `dirs` -/
def Rays (dirs : List (Int × Int)) (shape : Nat → Nat → Bool) : Prop :=
  (∀ d ∈ dirs, UnitDir d) ∧ ∀ df dk : Int, shape (Spec.iabs df) (Spec.iabs dk) = true ↔
    ∃ d ∈ dirs, ∃ n : Nat, df = d.2 + n * d.2 ∧ dk = -d.1 + n * -d.1

/-- `Q` is what the far square is asked to hold: a given piece (check detection), "empty or enemy" (move
    generation) -/
theorem ray_iff (p : Pos) (hr : RingOK p.board) (hi : InnerOK p.board) (o : Spec.Sq) (ho : InB o)
    (dirs : List (Int × Int)) (shape : Nat → Nat → Bool) (hs : Rays dirs shape)
    (Q : Square → Prop) (hQ : ∀ sq, Q sq → sq ≠ .boundary) (mov : Point) :
    (∃ d ∈ dirs, ∃ n : Nat, mov = rayPt (toPt o) d n ∧
      (∀ i : Nat, i < n → (rayAt p.board (toPt o) d i).isEmpty = true) ∧ Q (rayAt p.board (toPt o) d n)) ↔
    ∃ s, InB s ∧ mov = toPt s ∧
      shape (Spec.iabs ((s.file : Int) - o.file)) (Spec.iabs ((s.rank : Int) - o.rank)) = true ∧
      Spec.clearBetween (abs p) o s = true ∧ Q (p.board.get mov.row mov.col) := by
  constructor
  · rintro ⟨d, hd, n, rfl, hemp, hq⟩
    obtain ⟨hin, hf, hk, hp, e⟩ := ray_toPt p.board hr o ho d n (hQ _ hq)
    refine ⟨_, hin, hp, (hs.2 _ _).mpr ⟨d, hd, n, hf, hk⟩,
      (clearBetween_steps _ o _ _ (hs.1 d hd).spec n hf hk).mpr fun i hi' => ?_, by rw [hp, ← e]; exact hq⟩
    rw [at_ray p hr o ho d i (isEmpty_ne_boundary _ (hemp i hi'))]
    exact hemp i hi'
  · rintro ⟨s, hin, rfl, hsh, hc, hq⟩
    obtain ⟨d, hd, n, hf, hk⟩ := (hs.2 _ _).mp hsh
    obtain ⟨hp, e⟩ := ray_toPt_of p.board o s ho hin d n hf hk
    have hu := hs.1 d hd
    refine ⟨d, hd, n, hp.symm, fun i hi' => ?_, by rw [e]; exact hq⟩
    -- the square is between `o` and `s`, hence on the board and no sentinel
    have b1 := steps_between d.2 hu.2.1 i n (by omega)
    have b2 := steps_between (-d.1) hu.spec.2.1 i n (by omega)
    obtain ⟨hb, hbf, hbk⟩ := shift_inB o (d.2 + i * d.2) (-d.1 + i * -d.1)
      (by unfold InB at ho hin; omega) (by unfold InB at ho hin; omega)
    obtain ⟨-, e'⟩ := ray_toPt_of p.board o _ ho hb d i (by omega) (by omega)
    have hnb : rayAt p.board (toPt o) d i ≠ .boundary := by rw [e']; exact hi _ _ (toPt_onBoard _ hb)
    rw [← at_ray p hr o ho d i hnb]
    exact (clearBetween_steps _ o s _ hu.spec n hf hk).mp hc i hi'

theorem Rays.clear_symm {dirs : List (Int × Int)} {shape : Nat → Nat → Bool} (hs : Rays dirs shape)
    (P : Spec.Position) (o s : Spec.Sq)
    (h : shape (Spec.iabs ((s.file : Int) - o.file)) (Spec.iabs ((s.rank : Int) - o.rank)) = true) :
    Spec.clearBetween P o s = Spec.clearBetween P s o := by
  obtain ⟨d, hd, n, hf, hk⟩ := (hs.2 _ _).mp h
  exact clearBetween_symm P o s _ (hs.1 d hd).spec n hf hk

def rookShape (a b : Nat) : Bool := (a == 0 || b == 0) && (a + b != 0)
def bishopShape (a b : Nat) : Bool := a == b && a != 0
def knightShape (a b : Nat) : Bool := (a == 1 && b == 2) || (a == 2 && b == 1)

/-! `Spec.attacksFrom` kind by kind, as the proofs read it: a shape of the displacement and, along lines,
`Spec.clearBetween`; a queen attacks as a bishop or as a rook. -/

section
variable (P : Spec.Position) (s t : Spec.Sq) (c : Color)

theorem attacksFrom_pawn : Spec.attacksFrom P s ⟨c, .pawn⟩ t = true ↔
    (t.rank : Int) - s.rank = Spec.fwd c ∧ ((t.file : Int) - s.file).natAbs = 1 := by
  show (decide (_ = Spec.fwd c) && _) = true ↔ _
  simp only [Bool.and_eq_true, decide_eq_true_eq, beq_iff_eq, Spec.iabs]

theorem attacksFrom_knight : Spec.attacksFrom P s ⟨c, .knight⟩ t =
    knightShape (Spec.iabs ((t.file : Int) - s.file)) (Spec.iabs ((t.rank : Int) - s.rank)) := rfl

theorem attacksFrom_king : Spec.attacksFrom P s ⟨c, .king⟩ t =
    (max (Spec.iabs ((t.file : Int) - s.file)) (Spec.iabs ((t.rank : Int) - s.rank)) == 1) := rfl

theorem attacksFrom_bishop : Spec.attacksFrom P s ⟨c, .bishop⟩ t =
    (bishopShape (Spec.iabs ((t.file : Int) - s.file)) (Spec.iabs ((t.rank : Int) - s.rank)) &&
      Spec.clearBetween P s t) := rfl

theorem attacksFrom_rook : Spec.attacksFrom P s ⟨c, .rook⟩ t =
    (rookShape (Spec.iabs ((t.file : Int) - s.file)) (Spec.iabs ((t.rank : Int) - s.rank)) &&
      Spec.clearBetween P s t) := rfl

theorem attacksFrom_queen : Spec.attacksFrom P s ⟨c, .queen⟩ t =
    (Spec.attacksFrom P s ⟨c, .bishop⟩ t || Spec.attacksFrom P s ⟨c, .rook⟩ t) :=
  Bool.and_or_distrib_right ..

end

theorem steps_of_natAbs (x : Int) (n : Nat) (h : x.natAbs = n + 1) : x = 1 + n * 1 ∨ x = -1 + n * -1 := by
  omega

theorem natAbs_steps (e : Int) (he : e = 1 ∨ e = -1) (n : Nat) : (e + n * e).natAbs = n + 1 := by
  rcases he with rfl | rfl <;> omega

-- a displacement of the shape picks its direction by its signs and lies `natAbs - 1` squares past the first
theorem rook_rays : Rays Gen.checkRookDirs rookShape := by
  refine ⟨checkRookDirs_unit, fun df dk => ?_⟩
  unfold rookShape Spec.iabs
  simp only [Gen.checkRookDirs, List.mem_cons, List.mem_nil_iff, or_false, exists_eq_or_imp, exists_eq_left,
    Bool.and_eq_true, Bool.or_eq_true, beq_iff_eq, bne_iff_ne, ne_eq, Int.neg_neg, Int.natAbs_eq_zero,
    Int.neg_zero, Int.mul_zero, Int.add_zero]
  constructor
  · rintro ⟨h1 | h1, h2⟩
    · subst h1
      obtain ⟨n, hn⟩ : ∃ n, dk.natAbs = n + 1 := ⟨dk.natAbs - 1, by omega⟩
      rcases steps_of_natAbs dk n hn with ek | ek
      · exact Or.inr (Or.inl ⟨n, rfl, ek⟩)
      · exact Or.inl ⟨n, rfl, ek⟩
    · subst h1
      obtain ⟨n, hn⟩ : ∃ n, df.natAbs = n + 1 := ⟨df.natAbs - 1, by omega⟩
      rcases steps_of_natAbs df n hn with ef | ef
      · exact Or.inr (Or.inr (Or.inl ⟨n, ef, rfl⟩))
      · exact Or.inr (Or.inr (Or.inr ⟨n, ef, rfl⟩))
  · rintro (⟨n, rfl, rfl⟩ | ⟨n, rfl, rfl⟩ | ⟨n, rfl, rfl⟩ | ⟨n, rfl, rfl⟩) <;> omega

theorem bishop_rays : Rays Gen.checkBishopDirs bishopShape := by
  refine ⟨checkBishopDirs_unit, fun df dk => ?_⟩
  unfold bishopShape Spec.iabs
  simp only [Gen.checkBishopDirs, List.mem_cons, List.mem_nil_iff, or_false, exists_eq_or_imp, exists_eq_left,
    Bool.and_eq_true, beq_iff_eq, bne_iff_ne, ne_eq, Int.neg_neg]
  constructor
  · rintro ⟨h1, h2⟩
    obtain ⟨n, hn⟩ : ∃ n, df.natAbs = n + 1 := ⟨df.natAbs - 1, by omega⟩
    rcases steps_of_natAbs df n hn with ef | ef <;> rcases steps_of_natAbs dk n (h1 ▸ hn) with ek | ek
    · exact Or.inr (Or.inr (Or.inl ⟨n, ef, ek⟩))
    · exact Or.inr (Or.inl ⟨n, ef, ek⟩)
    · exact Or.inr (Or.inr (Or.inr ⟨n, ef, ek⟩))
    · exact Or.inl ⟨n, ef, ek⟩
  · rintro (⟨n, rfl, rfl⟩ | ⟨n, rfl, rfl⟩ | ⟨n, rfl, rfl⟩ | ⟨n, rfl, rfl⟩) <;>
      simp only [natAbs_steps _ (Or.inl rfl), natAbs_steps _ (Or.inr rfl)] <;> exact ⟨trivial, Nat.succ_ne_zero n⟩

/-- `rook_moves` and `bishop_moves` walk the same directions as the check probes.  These two lines type-check
    because `Gen.rookDirs` / `Gen.bishopDirs` and `Gen.checkRookDirs` / `Gen.checkBishopDirs` are the same lists in
    the same order (four separate constants in the Rust source): if one of them is reordered there, the mismatch
    reported here means that `Rays` has to be proved for the new list as `rook_rays` is for the old. -/
theorem rookDirs_rays : Rays Gen.rookDirs rookShape := rook_rays
theorem bishopDirs_rays : Rays Gen.bishopDirs bishopShape := bishop_rays

theorem mem_knightCords (a b : Int) :
    (a, b) ∈ Gen.knightCords ↔ (b.natAbs = 1 ∧ a.natAbs = 2) ∨ (b.natAbs = 2 ∧ a.natAbs = 1) := by
  constructor
  · intro h
    simp only [Gen.knightCords, List.mem_cons, Prod.mk.injEq, List.mem_nil_iff, or_false] at h
    rcases h with ⟨rfl, rfl⟩ | ⟨rfl, rfl⟩ | ⟨rfl, rfl⟩ | ⟨rfl, rfl⟩ | ⟨rfl, rfl⟩ | ⟨rfl, rfl⟩ | ⟨rfl, rfl⟩ |
      ⟨rfl, rfl⟩ <;> decide
  · rintro (⟨hb, ha⟩ | ⟨hb, ha⟩) <;>
      rcases Int.natAbs_eq_iff.mp hb with rfl | rfl <;> rcases Int.natAbs_eq_iff.mp ha with rfl | rfl <;> decide

end Walleye
