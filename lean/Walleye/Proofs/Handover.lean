/-
  The hand-over machine under EVERY schedule: what has reached standard output is exactly the info
  lines of the acts the search thread got through, followed — once the go is answered — by one
  `bestmove` carrying the board of the LAST of those acts; afterwards nothing changes any more.
  The invariants are proved over the four state-changing transitions (`Step`); the code of the step
  functions is opened in `step_cases`, and where a particular enabled step is computed.
-/
import Walleye.Model.Handover
namespace Walleye

theorem foldl_keeps_of_cases {σ ε : Type} {step : σ → ε → σ} {R : σ → σ → Prop}
    (hc : ∀ s e, step s e = s ∨ R s (step s e)) {P : σ → Prop} (h : ∀ {s s'}, R s s' → P s → P s')
    (evs : List ε) {s : σ} (hs : P s) : P (evs.foldl step s) :=
  List.foldlRecOn evs step hs fun s hs e _ => (hc s e).elim (fun same => same.symm ▸ hs) (fun st => h st hs)

namespace Handover

variable {B I : Type}

theorem infos_append (l₁ l₂ : List (Act B I)) : infos (l₁ ++ l₂) = infos l₁ ++ infos l₂ := by
  induction l₁ with
  | nil => rfl
  | cons a t ih => cases a <;> simp [infos, ih]

theorem boards_append (l₁ l₂ : List (Act B I)) : boards (l₁ ++ l₂) = boards l₁ ++ boards l₂ :=
  List.map_append

theorem mem_infos {l : Line B I} : ∀ {d : List (Act B I)}, l ∈ infos d → ∃ i, l = .info i
  | .fallback _ :: t, h => mem_infos (d := t) h
  | .accept _ i :: t, h => (List.mem_cons.mp h).elim (fun e => ⟨i, e⟩) (mem_infos (d := t))

theorem infos_best_split {d : List (Act B I)} {b b' : B} {pre post : List (Line B I)}
    (h : infos d ++ [.best b'] = pre ++ .best b :: post) : post = [] ∧ pre = infos d := by
  rcases List.append_eq_append_iff.mp h with ⟨a', hpre, ha⟩ | ⟨c', hd, hc⟩
  · cases a' with
    | nil => exact ⟨(by simpa using ha.symm : b = b' ∧ post = []).2, by simpa using hpre⟩
    | cons x xs => simp at ha
  · cases c' with
    | nil => exact ⟨(by simpa using hc : b = b' ∧ post = []).2, by simpa using hd.symm⟩
    | cons x xs =>
      obtain ⟨i, hi⟩ := mem_infos (l := x) (d := d) (by rw [hd]; simp)
      simp [hi] at hc

/-- the channel between the two threads; `taken` is what the I/O thread has received so far -/
def Flight (sent chan : List B) (best : Option B) : Prop := ∃ taken, sent = taken ++ chan ∧ best = taken.getLast?

theorem Flight.init : Flight ([] : List B) [] none := ⟨[], rfl, rfl⟩

theorem Flight.send {sent chan : List B} {best : Option B} (h : Flight sent chan best) (m : B) :
    Flight (sent ++ [m]) (chan ++ [m]) best :=
  let ⟨taken, h1, h2⟩ := h; ⟨taken, by rw [h1, List.append_assoc], h2⟩

theorem Flight.recv {sent r : List B} {b : B} {best : Option B} (h : Flight sent (b :: r) best) : Flight sent r (some b) :=
  let ⟨taken, h1, _⟩ := h; ⟨taken ++ [b], by simp [h1], by simp⟩

/-- draining the channel leaves the I/O thread with the last board sent -/
theorem Flight.last {sent chan : List B} {best : Option B} (h : Flight sent chan best) :
    sent.getLast? = chan.getLast?.or best := by
  obtain ⟨taken, rfl, rfl⟩ := h; exact List.getLast?_append

theorem Flight.none {sent chan : List B} (h : Flight sent chan none) : sent = chan := by
  obtain ⟨taken, rfl, h2⟩ := h
  rw [List.getLast?_eq_none_iff.mp h2.symm, List.nil_append]

section perform
variable (s : St B I) (a : Act B I) (t : List (Act B I))
@[simp] theorem perform_todo : (perform s a t).todo = t := by cases a <;> rfl
@[simp] theorem perform_alive : (perform s a t).alive = s.alive := by cases a <;> rfl
@[simp] theorem perform_chan : (perform s a t).chan = s.chan ++ [a.board] := by cases a <;> rfl
@[simp] theorem perform_isOpen : (perform s a t).isOpen = s.isOpen := by cases a <;> rfl
@[simp] theorem perform_best : (perform s a t).best = s.best := by cases a <;> rfl
@[simp] theorem perform_out : (perform s a t).out = s.out ++ infos [a] := by cases a <;> simp [perform, infos]
@[simp] theorem perform_done : (perform s a t).done = s.done ++ [a] := by cases a <;> rfl
end perform

inductive Step : St B I → St B I → Prop
  | stop {s : St B I} : s.todo = [] ∨ s.isOpen = false → Step s { s with alive := false }
  | act {s : St B I} (a t) : s.alive = true → s.todo = a :: t → s.isOpen = true → Step s (perform s a t)
  | recv {s : St B I} (b r) : s.isOpen = true → s.chan = b :: r → Step s { s with chan := r, best := some b }
  | answer {s : St B I} (b0) : s.isOpen = true → s.best = some b0 →
      Step s { s with chan := [], isOpen := false, best := some (s.chan.getLast?.getD b0),
                      out := s.out ++ [.best (s.chan.getLast?.getD b0)] }

theorem step_cases (s : St B I) (e : Ev) : step s e = s ∨ Step s (step s e) := by
  cases e with
  | search =>
    simp only [step, searchStep]
    split
    · split
      · exact .inr (.stop (.inl ‹_›))
      · split
        · exact .inr (.act _ _ ‹_› ‹_› ‹_›)
        · exact .inr (.stop (.inr (Bool.eq_false_iff.mpr ‹_›)))
    · exact .inl rfl
  | poll =>
    simp only [step, pollStep]
    split
    · split
      · exact .inl rfl
      · exact .inr (.recv _ _ ‹_› ‹_›)
    · exact .inl rfl
  | answer =>
    simp only [step, answerStep]
    split
    · split
      · exact .inl rfl
      · exact .inr (.answer _ ‹_› ‹_›)
    · exact .inl rfl

theorem keeps_of_step {P : St B I → Prop} (h : ∀ {s s'}, Step s s' → P s → P s') (evs : List Ev) {s : St B I} :
    P s → P (evs.foldl step s) :=
  foldl_keeps_of_cases step_cases h evs

structure Inv (acts : List (Act B I)) (s : St B I) : Prop where
  split : s.done ++ s.todo = acts
  flight : s.isOpen = true → s.out = infos s.done ∧ Flight (boards s.done) s.chan s.best
  landed : s.isOpen = false → ∃ b, s.out = infos s.done ++ [.best b] ∧ (boards s.done).getLast? = some b
  dead : s.alive = false → s.todo = [] ∨ s.isOpen = false

theorem inv_init (acts : List (Act B I)) : Inv acts (init acts) :=
  ⟨rfl, fun _ => ⟨rfl, .init⟩, fun h => (by cases h), fun h => (by cases h)⟩

theorem inv_step {acts : List (Act B I)} {s s' : St B I} (st : Step s s') (h : Inv acts s) : Inv acts s' := by
  cases st with
  | stop hg => exact ⟨h.split, h.flight, h.landed, fun _ => hg⟩
  | act a t ha ht ho =>
    obtain ⟨hout, hfl⟩ := h.flight ho
    exact ⟨by simp [← h.split, ht], fun _ => ⟨by simp [hout, infos_append], by simpa [boards] using hfl.send a.board⟩,
      fun hc => (by simp [ho] at hc), fun hd => (by simp [ha] at hd)⟩
  | recv b r ho hc =>
    obtain ⟨hout, hfl⟩ := h.flight ho
    exact ⟨h.split, fun _ => ⟨hout, (hc ▸ hfl).recv⟩, fun hcl => (by cases ho.symm.trans hcl), h.dead⟩
  | answer b0 ho hb0 =>
    obtain ⟨hout, hfl⟩ := h.flight ho
    refine ⟨h.split, fun hc => (by cases hc), fun _ => ⟨_, by rw [hout], ?_⟩, fun _ => .inr rfl⟩
    rw [hfl.last, hb0]
    cases s.chan.getLast? <;> rfl

theorem inv_foldl {acts : List (Act B I)} (evs : List Ev) {s : St B I} : Inv acts s → Inv acts (evs.foldl step s) :=
  keeps_of_step inv_step evs

theorem inv_run (acts : List (Act B I)) (evs : List Ev) : Inv acts (run acts evs) :=
  inv_foldl evs (inv_init acts)

/-- once the go is answered the search thread can only end -/
theorem Step.keeps_closed {s s' : St B I} (st : Step s s') (h : s.isOpen = false) : s'.isOpen = false ∧ s'.out = s.out := by
  cases st with
  | stop => exact ⟨h, rfl⟩
  | act _ _ _ _ ho | recv _ _ ho | answer _ ho => cases ho.symm.trans h

theorem foldl_closed (evs : List Ev) {s : St B I} (h : s.isOpen = false) :
    (evs.foldl step s).isOpen = false ∧ (evs.foldl step s).out = s.out :=
  keeps_of_step (P := fun t => t.isOpen = false ∧ t.out = s.out)
    (fun st ht => ⟨(st.keeps_closed ht.1).1, (st.keeps_closed ht.1).2.trans ht.2⟩) evs ⟨h, rfl⟩

/-- two stages on the way to an answer that no step undoes (each holds trivially once the go is answered):
    an act has got through (`Started`: one `poll` then yields a board); the I/O thread holds a board
    (`Holding`: one `answer` then answers) -/
def Started (s : St B I) : Prop := s.isOpen = false ∨ s.done ≠ []

def Holding (s : St B I) : Prop := s.isOpen = false ∨ s.best.isSome = true

theorem Step.keeps_started {s s' : St B I} (st : Step s s') (h : Started s) : Started s' := by
  cases st with
  | stop | recv => exact h
  | act => exact .inr (by simp)
  | answer => exact .inl rfl

theorem Step.keeps_holding {s s' : St B I} (st : Step s s') (h : Holding s) : Holding s' := by
  cases st with
  | stop => exact h
  | act => simpa [Holding] using h
  | recv => exact .inr rfl
  | answer => exact .inl rfl

theorem started_foldl (evs : List Ev) {s : St B I} : Started s → Started (evs.foldl step s) :=
  keeps_of_step Step.keeps_started evs

theorem holding_foldl (evs : List Ev) {s : St B I} : Holding s → Holding (evs.foldl step s) :=
  keeps_of_step Step.keeps_holding evs

theorem search_starts {acts : List (Act B I)} (hne : acts ≠ []) {s : St B I} (h : Inv acts s) :
    Started (step s .search) := by
  by_cases hs : Started s
  · exact started_foldl [.search] hs
  · -- nothing got through yet: the whole programme is still to do, so the thread is alive
    obtain ⟨ho, hd⟩ : s.isOpen = true ∧ s.done = [] := by simpa [Started] using hs
    have ht : s.todo = acts := by simpa [hd] using h.split
    have ha : s.alive = true := by
      cases ha : s.alive with
      | true => rfl
      | false => simpa [ht, hne, ho] using h.dead ha
    obtain ⟨a, t, rfl⟩ := List.exists_cons_of_ne_nil hne
    simp [step, searchStep, ha, ht, ho, Started]

/-- what got through is in flight or was taken: one poll and the I/O thread holds a board -/
theorem poll_of_started {acts : List (Act B I)} {s : St B I} (h : Inv acts s) (hs : Started s) :
    Holding (step s .poll) := by
  by_cases hh : Holding s
  · exact holding_foldl [.poll] hh
  · obtain ⟨ho, hb⟩ : s.isOpen = true ∧ s.best = none := by simpa [Holding] using hh
    have hd : s.done ≠ [] := hs.resolve_left (by simp [ho])
    have hfl := (h.flight ho).2
    rw [hb] at hfl
    cases hc : s.chan with
    | nil => exact absurd (by simpa [hc, boards] using hfl.none) hd
    | cons b r => simp [step, pollStep, ho, hc, Holding]

theorem answer_of_holding {s : St B I} (h : Holding s) : (step s .answer).isOpen = false := by
  by_cases ho : s.isOpen = true
  · cases hb : s.best with
    | none => simp [Holding, ho, hb] at h
    | some b0 => simp [step, answerStep, ho, hb]
  · exact (foldl_closed [.answer] (by simpa using ho)).1

end Handover
end Walleye
