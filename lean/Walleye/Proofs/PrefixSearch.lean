/-
  C07: every function of the search model satisfies `Lk` (Proofs/Prefix.lean), whatever the
  observation; hence the improvements reported with the clock expiring at consultation k are a prefix
  of those reported with a later expiry, or none — for every game, ordering oracle, table, fuel and
  root; as info lines (`reports_prefix`) and as (board, info line) pairs (`reports_prefixB`).
-/
import Walleye.Proofs.PrefixPairs
import Walleye.Proofs.Frame
namespace Walleye

variable {P O : Type} {k : Nat} {e2 : Option Nat} {ω : Type} {obs : Array (Report P) → List ω}

variable (g : Game P) (ord : Oracle P O)

section
variable (hl : Later k e2)
include hl

theorem lk_walk : Walk (fun {α} => Lk (α := α) (P := P) (O := O) obs k e2) where
  pure := Lk.pure
  bind := Lk.bind
  ite := Lk.ite
  panic := panic_lk
  outOfFuel := outOfFuel_lk
  tick := tick_lk hl
  nodeSearched := nodeSearched_lk
  setPV := setPV_lk
  order := order_lk hl
  insertCur := insertCur_lk
  getPV := getPV_lk
  getKillers := getKillers_lk
  insertKiller := insertKiller_lk
  getTable := get_bind_lk
  bracket key _ hb :=
    Lk.bind (tableAdd_lk key) fun _ => Lk.bind hb fun r => Lk.bind (tableRemove_lk key) fun _ => Lk.pure r

theorem alphaBeta_lk (fuel : Nat) (p : P) (depth ply : Nat) (a b : Int) (n : Bool) :
    Lk obs k e2 (alphaBeta g ord fuel p depth ply a b n) :=
  alphaBeta_walk g ord (lk_walk hl) fuel p depth ply a b n

variable (ho : ObsOK obs)
include ho

theorem rootLoop_lk (fuel curDepth : Nat) (first : P) :
    ∀ (l : List P) (alpha : Int) (best : Option P), Lk obs k e2 (rootLoop g ord fuel curDepth first l alpha best) := by
  intro l
  induction l with
  | nil => intro alpha best; exact Lk.pure _
  | cons m ms ih =>
    intro alpha best
    rw [rootLoop_cons]
    -- every acceptance is guarded by a fresh consultation of the clock
    exact Lk.bind (tick_lk hl) fun _ => Lk.ite (Lk.ite (Lk.bind (reportSent_lk ho _) fun _ => Lk.pure _) (Lk.pure _))
      (Lk.bind (alphaBeta_lk g ord hl ..) fun r => Lk.bind (insertCur_lk ..) fun _ => Lk.ite
        (Lk.tick_bind hl (f := fun t => rootStep g ord fuel curDepth first m ms alpha best (-r) (!t))
          (accepted_wlk ho _ _ _ _ (ih ..)) (ih ..))
        (ih ..))

theorem iterate_lk (fuel : Nat) (root : P) :
    ∀ (n curDepth : Nat) (moves : List P) (best : Option P), Lk obs k e2 (iterate g ord fuel root n curDepth moves best) := by
  intro n
  induction n with
  | zero => intro c mv b; exact Lk.pure _
  | succ n ih =>
    intro c mv b
    unfold iterate
    refine Lk.ite (Lk.pure _) (Lk.bind reset_lk fun _ => Lk.bind (order_lk hl ..) fun moves => ?_)
    cases moves with
    | nil => exact ih ..
    | cons first rest =>
      refine Lk.bind (Lk.ite (reportSent_lk ho _) (Lk.pure _)) fun _ => Lk.bind (rootLoop_lk g ord hl ho fuel ..) fun r => ?_
      cases r with
      | none => exact Lk.pure _
      | some ab => exact ih ..

theorem getBestMove_lk (fuel : Nat) (root : P) : Lk obs k e2 (getBestMove g ord fuel root) := by
  unfold getBestMove
  exact iterate_lk g ord hl ho fuel root _ _ _ _

end

theorem obs_prefix (ho : ObsOK obs) (fuel : Nat) (root : P) (table : DrawTable) (o : O) (hl : Later k e2) :
    obs (getBestMove g ord fuel root (newSS (some k) table o)).st.reports <+:
      obs (getBestMove g ord fuel root (newSS e2 table o)).st.reports :=
  ((getBestMove_lk g ord hl ho fuel root).lock (newSS (some k) table o) (newSS e2 table o)
    ⟨rfl, rfl, Nat.zero_le _, rfl⟩).prefix

theorem reports_prefix (fuel : Nat) (root : P) (table : DrawTable) (o : O) (k : Nat) (e2 : Option Nat)
    (hl : Later k e2) :
    (getBestMove g ord fuel root (newSS (some k) table o)).st.infos <+:
      (getBestMove g ord fuel root (newSS e2 table o)).st.infos :=
  obs_prefix g ord infosOf_ok fuel root table o hl

theorem reports_prefixB (fuel : Nat) (root : P) (table : DrawTable) (o : O) (k : Nat) (e2 : Option Nat)
    (hl : LaterB k e2) :
    (getBestMove g ord fuel root (newSS (some k) table o)).stB.pairs <+:
      (getBestMove g ord fuel root (newSS e2 table o)).stB.pairs :=
  obs_prefix g ord infosOfB_ok fuel root table o (laterB_iff_later.mp hl)

end Walleye
