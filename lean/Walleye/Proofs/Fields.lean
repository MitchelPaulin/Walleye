/- The board, and which fields each of the four board.rs mutators touches (the simp set of the successor
   proofs).  `Pos.book` is a position with its bookkeeping fields (king caches, ordering score, move
   descriptor) overwritten: `move_piece`, `take_away_castling_rights` and `unset_pawn_double_move` commute with
   it (`*_book`; for `swap_color` that is `rfl`), so the generator's writes to those fields can be moved out of
   the way. -/
import Walleye.Model.MoveGen
namespace Walleye

/-- the 8x8 part of the 12x12 mailbox -/
def OnBoard (pt : Point) : Prop := 2 ≤ pt.row ∧ pt.row ≤ 9 ∧ 2 ≤ pt.col ∧ pt.col ≤ 9

instance (pt : Point) : Decidable (OnBoard pt) := by unfold OnBoard; infer_instance

theorem OnBoard.lt {pt : Point} (h : OnBoard pt) : pt.row < 12 ∧ pt.col < 12 :=
  ⟨Nat.lt_of_le_of_lt h.2.1 (by decide), Nat.lt_of_le_of_lt h.2.2.2 (by decide)⟩

theorem Point.eq_mk {pt : Point} {r c : Nat} (h1 : pt.row = r) (h2 : pt.col = c) : pt = ⟨r, c⟩ := by
  cases pt; subst h1 h2; rfl

theorem Piece.eq_mk (piece : Piece) (c : Color) (k : Kind) (hc : piece.color = c) (hk : piece.kind = k) :
    piece = ⟨c, k⟩ := by cases piece; simp_all

theorem Board.ext_get (a b : Board) (hg : ∀ r c, a.get r c = b.get r c) : a = b := by
  cases a with | mk ca sa => cases b with | mk cb sb =>
  have : ca = cb := by
    apply Array.ext (by rw [sa, sb])
    intro i h1 h2
    have hi : i < 144 := by rw [sa] at h1; exact h1
    have := hg (i / 12) (i % 12)
    unfold Board.get at this
    simp only [show i / 12 < 12 ∧ i % 12 < 12 from ⟨by omega, by omega⟩] at this
    have e : i / 12 * 12 + i % 12 = i := by omega
    simp only [e] at this
    exact this
  subst this; rfl

theorem Board.set_comm (b : Board) (r1 c1 r2 c2 : Nat) (v w : Square) (hne : ¬ (r1 = r2 ∧ c1 = c2)) :
    (b.set r1 c1 v).set r2 c2 w = (b.set r2 c2 w).set r1 c1 v := by
  apply Board.ext_get
  intro r c
  by_cases h2 : r2 = r ∧ c2 = c
  · obtain ⟨rfl, rfl⟩ := h2
    by_cases hb : r2 < 12 ∧ c2 < 12
    · rw [Board.get_set_eq _ _ _ _ hb.1 hb.2, Board.get_set_ne _ _ _ _ _ _ hne, Board.get_set_eq _ _ _ _ hb.1 hb.2]
    · unfold Board.get; rw [dif_neg hb, dif_neg hb]
  · rw [Board.get_set_ne _ _ _ _ _ _ h2]
    by_cases h1 : r1 = r ∧ c1 = c
    · obtain ⟨rfl, rfl⟩ := h1
      by_cases hb : r1 < 12 ∧ c1 < 12
      · rw [Board.get_set_eq _ _ _ _ hb.1 hb.2, Board.get_set_eq _ _ _ _ hb.1 hb.2]
      · unfold Board.get; rw [dif_neg hb, dif_neg hb]
    · rw [Board.get_set_ne _ _ _ _ _ _ h1, Board.get_set_ne _ _ _ _ _ _ h1, Board.get_set_ne _ _ _ _ _ _ h2]

theorem Board.lt_of_get {b : Board} {r k : Nat} (h : b.get r k ≠ .boundary) : r < 12 ∧ k < 12 :=
  Decidable.by_contra fun hb => h (dif_neg hb)

theorem Board.get_set_of_ne {b : Board} {v x : Square} {r k r' k' : Nat} (hv : v ≠ x)
    (hx : (b.set r k v).get r' k' = x) : b.get r' k' = x := by
  by_cases hb : r < 12 ∧ k < 12
  · rw [Board.get_set _ _ _ _ _ _ hb.1 hb.2] at hx
    split at hx
    · exact absurd hx hv
    · exact hx
  · simpa [Board.set, hb] using hx

def rightColor : CastlingType → Color
  | .wks => .white | .wqs => .white | .bks => .black | .bqs => .black

/-- the cached king square of a side (`white_king_location`, `black_king_location`) -/
def kingPt (p : Pos) : Color → Point
  | .white => p.wk
  | .black => p.bk

theorem kingPt_congr (a b : Pos) (hw : a.wk = b.wk) (hb : a.bk = b.bk) (c : Color) : kingPt a c = kingPt b c := by
  cases c <;> simp [kingPt, hw, hb]

section
variable (h : Hasher) (p : Pos)

@[simp] theorem swapColor_board : (p.swapColor h).board = p.board := rfl
@[simp] theorem swapColor_toMove : (p.swapColor h).toMove = p.toMove.opp := rfl
@[simp] theorem swapColor_ep : (p.swapColor h).ep = p.ep := rfl
@[simp] theorem swapColor_wk : (p.swapColor h).wk = p.wk := rfl
@[simp] theorem swapColor_bk : (p.swapColor h).bk = p.bk := rfl
@[simp] theorem swapColor_lastMove : (p.swapColor h).lastMove = p.lastMove := rfl
@[simp] theorem swapColor_promo : (p.swapColor h).promo = p.promo := rfl
@[simp] theorem swapColor_oh : (p.swapColor h).oh = p.oh := rfl
@[simp] theorem swapColor_wks : (p.swapColor h).wks = p.wks := rfl
@[simp] theorem swapColor_wqs : (p.swapColor h).wqs = p.wqs := rfl
@[simp] theorem swapColor_bks : (p.swapColor h).bks = p.bks := rfl
@[simp] theorem swapColor_bqs : (p.swapColor h).bqs = p.bqs := rfl

variable (ct : CastlingType)

theorem swapColor_right : (p.swapColor h).right ct = p.right ct := by cases ct <;> rfl

@[simp] theorem takeAway_board : (p.takeAway h ct).board = p.board := by
  unfold Pos.takeAway; cases ct <;> simp only <;> split <;> rfl
@[simp] theorem takeAway_toMove : (p.takeAway h ct).toMove = p.toMove := by
  unfold Pos.takeAway; cases ct <;> simp only <;> split <;> rfl
@[simp] theorem takeAway_ep : (p.takeAway h ct).ep = p.ep := by
  unfold Pos.takeAway; cases ct <;> simp only <;> split <;> rfl
@[simp] theorem takeAway_wk : (p.takeAway h ct).wk = p.wk := by
  unfold Pos.takeAway; cases ct <;> simp only <;> split <;> rfl
@[simp] theorem takeAway_bk : (p.takeAway h ct).bk = p.bk := by
  unfold Pos.takeAway; cases ct <;> simp only <;> split <;> rfl
@[simp] theorem takeAway_lastMove : (p.takeAway h ct).lastMove = p.lastMove := by
  unfold Pos.takeAway; cases ct <;> simp only <;> split <;> rfl
@[simp] theorem takeAway_promo : (p.takeAway h ct).promo = p.promo := by
  unfold Pos.takeAway; cases ct <;> simp only <;> split <;> rfl
@[simp] theorem takeAway_oh : (p.takeAway h ct).oh = p.oh := by
  unfold Pos.takeAway; cases ct <;> simp only <;> split <;> rfl

/-- a conjunction, so that `simp only [takeAway_flags]` rewrites with one rule per flag -/
theorem takeAway_flags :
    (p.takeAway h ct).wks = (p.wks && decide (ct ≠ .wks)) ∧ (p.takeAway h ct).wqs = (p.wqs && decide (ct ≠ .wqs)) ∧
    (p.takeAway h ct).bks = (p.bks && decide (ct ≠ .bks)) ∧ (p.takeAway h ct).bqs = (p.bqs && decide (ct ≠ .bqs)) := by
  cases ct <;> simp only [Pos.takeAway] <;> split <;> simp_all

theorem takeAway_right (ct' : CastlingType) :
    (p.takeAway h ct).right ct' = (p.right ct' && decide (ct ≠ ct')) := by
  cases ct' <;> simp only [Pos.right, takeAway_flags]

theorem takeAway_kingPt (c : Color) : kingPt (p.takeAway h ct) c = kingPt p c := by
  cases c <;> simp [kingPt]

theorem takeAwayOpt_right (o : Option CastlingType) (ct' : CastlingType) :
    (p.takeAwayOpt h o).right ct' = (p.right ct' && !(o == some ct')) := by
  cases o with
  | none => simp [Pos.takeAwayOpt]
  | some ct => simp only [Pos.takeAwayOpt, takeAway_right, Bool.beq_eq_decide_eq]; simp

@[simp] theorem unsetEp_board : (p.unsetEp h).board = p.board := by
  unfold Pos.unsetEp; split <;> rfl
@[simp] theorem unsetEp_toMove : (p.unsetEp h).toMove = p.toMove := by
  unfold Pos.unsetEp; split <;> rfl
@[simp] theorem unsetEp_ep : (p.unsetEp h).ep = none := by
  unfold Pos.unsetEp; split <;> simp_all
@[simp] theorem unsetEp_wk : (p.unsetEp h).wk = p.wk := by
  unfold Pos.unsetEp; split <;> rfl
@[simp] theorem unsetEp_bk : (p.unsetEp h).bk = p.bk := by
  unfold Pos.unsetEp; split <;> rfl
@[simp] theorem unsetEp_lastMove : (p.unsetEp h).lastMove = p.lastMove := by
  unfold Pos.unsetEp; split <;> rfl
@[simp] theorem unsetEp_promo : (p.unsetEp h).promo = p.promo := by
  unfold Pos.unsetEp; split <;> rfl
@[simp] theorem unsetEp_oh : (p.unsetEp h).oh = p.oh := by
  unfold Pos.unsetEp; split <;> rfl
@[simp] theorem unsetEp_wks : (p.unsetEp h).wks = p.wks := by
  unfold Pos.unsetEp; split <;> rfl
@[simp] theorem unsetEp_wqs : (p.unsetEp h).wqs = p.wqs := by
  unfold Pos.unsetEp; split <;> rfl
@[simp] theorem unsetEp_bks : (p.unsetEp h).bks = p.bks := by
  unfold Pos.unsetEp; split <;> rfl
@[simp] theorem unsetEp_bqs : (p.unsetEp h).bqs = p.bqs := by
  unfold Pos.unsetEp; split <;> rfl

theorem unsetEp_right : (p.unsetEp h).right ct = p.right ct := by
  cases ct <;> simp [Pos.right]

theorem unsetEp_kingPt (c : Color) : kingPt (p.unsetEp h) c = kingPt p c := by
  cases c <;> simp [kingPt]

variable (s e : Point)

@[simp] theorem movePiece_toMove : (p.movePiece h s e).toMove = p.toMove := by
  unfold Pos.movePiece; split <;> rfl
@[simp] theorem movePiece_ep : (p.movePiece h s e).ep = p.ep := by
  unfold Pos.movePiece; split <;> rfl
@[simp] theorem movePiece_wk : (p.movePiece h s e).wk = p.wk := by
  unfold Pos.movePiece; split <;> rfl
@[simp] theorem movePiece_bk : (p.movePiece h s e).bk = p.bk := by
  unfold Pos.movePiece; split <;> rfl
@[simp] theorem movePiece_lastMove : (p.movePiece h s e).lastMove = p.lastMove := by
  unfold Pos.movePiece; split <;> rfl
@[simp] theorem movePiece_promo : (p.movePiece h s e).promo = p.promo := by
  unfold Pos.movePiece; split <;> rfl
@[simp] theorem movePiece_oh : (p.movePiece h s e).oh = p.oh := by
  unfold Pos.movePiece; split <;> rfl
@[simp] theorem movePiece_wks : (p.movePiece h s e).wks = p.wks := by
  unfold Pos.movePiece; split <;> rfl
@[simp] theorem movePiece_wqs : (p.movePiece h s e).wqs = p.wqs := by
  unfold Pos.movePiece; split <;> rfl
@[simp] theorem movePiece_bks : (p.movePiece h s e).bks = p.bks := by
  unfold Pos.movePiece; split <;> rfl
@[simp] theorem movePiece_bqs : (p.movePiece h s e).bqs = p.bqs := by
  unfold Pos.movePiece; split <;> rfl

theorem movePiece_right : (p.movePiece h s e).right ct = p.right ct := by
  cases ct <;> simp [Pos.right]

theorem movePiece_kingPt (c : Color) : kingPt (p.movePiece h s e) c = kingPt p c := by
  cases c <;> simp [kingPt]

def Pos.book (p : Pos) (wk bk : Point) (oh : Int) (lm : Option (Point × Point)) (pr : Option Piece) : Pos :=
  { p with wk := wk, bk := bk, oh := oh, lastMove := lm, promo := pr }

theorem movePiece_book (wk bk : Point) (oh : Int) (lm : Option (Point × Point)) (pr : Option Piece) :
    (p.book wk bk oh lm pr).movePiece h s e = (p.movePiece h s e).book wk bk oh lm pr := by
  unfold Pos.movePiece Pos.book; dsimp only; split <;> rfl

theorem takeAway_book (wk bk : Point) (oh : Int) (lm : Option (Point × Point))
    (pr : Option Piece) : (p.book wk bk oh lm pr).takeAway h ct = (p.takeAway h ct).book wk bk oh lm pr := by
  unfold Pos.takeAway Pos.book; cases ct <;> dsimp only <;> split <;> rfl

theorem unsetEp_book (wk bk : Point) (oh : Int) (lm : Option (Point × Point)) (pr : Option Piece) :
    (p.book wk bk oh lm pr).unsetEp h = (p.unsetEp h).book wk bk oh lm pr := by
  unfold Pos.unsetEp Pos.book; dsimp only; split <;> rfl

theorem book_right (wk bk : Point) (oh : Int) (lm : Option (Point × Point)) (pr : Option Piece) :
    (p.book wk bk oh lm pr).right ct = p.right ct := by cases ct <;> rfl

theorem book_lastMove (wk bk : Point) (oh : Int) (lm lm' : Option (Point × Point)) (pr : Option Piece) :
    ({ p.book wk bk oh lm pr with lastMove := lm' } : Pos) = p.book wk bk oh lm' pr := rfl

theorem movePiece_board : (p.movePiece h s e).board =
    match p.board.get s.row s.col with
    | .full pc => (p.board.set s.row s.col .empty).set e.row e.col (.full pc)
    | _ => p.board := by
  unfold Pos.movePiece; cases p.board.get s.row s.col <;> rfl

theorem movePiece_board_full (pc : Piece) (hs : p.board.get s.row s.col = .full pc) :
    (p.movePiece h s e).board = (p.board.set s.row s.col .empty).set e.row e.col (.full pc) := by
  rw [movePiece_board, hs]

end
end Walleye
