/-
  `ab_spec`: the engine-shaped search of the model (fail-hard quiescence, mate-distance clamp,
  first move with the full window, the others with a zero window and a re-search, stateful
  PV / killer / current-line bookkeeping, ordering oracle) returns a value related by `Bnd` to
  `Spec.negamax`, for every game, every ordering oracle that permutes, every window, every
  repetition table — whenever the clock never expires, the remaining depth is below the null-move
  threshold (3) and the call finishes normally.
-/
import Walleye.Proofs.NegamaxRange
import Walleye.Proofs.SearchRuns

namespace Walleye
open Spec DrawTable

variable {P O : Type}

/-- the states `ab_spec` speaks of: the clock never expires and the repetition table counts as `t`.
    `Handover.St`, the state of the hand-over machine, is another type: like `infos` (Proofs/RootNonneg)
    this one must stay out of sight of the files that `open Handover`, where it would win. -/
def St (t : DrawTable) (s : SS P O) : Prop := s.expiry = none ∧ TableEq s.table t

theorem St.bk {t : DrawTable} {s s' : SS P O} (h : St t s) (k : Bk s s') : St t s' :=
  ⟨k.expiry.trans h.1, by rw [k.table]; exact h.2⟩

def Neutral {α : Type} (m : M (SS P O) α) : Prop :=
  ∀ s a s', m s = .ok a s' → s'.table = s.table ∧ s'.expiry = s.expiry

theorem order_neutral (ord : Oracle P O) (c : Char) (l : List P) : Neutral (order ord c l) :=
  fun _ _ _ he => ⟨((order_bk ord c l).ok he).table, ((order_bk ord c l).ok he).expiry⟩

theorem tick_never (t : DrawTable) : Triple (St (P := P) (O := O) t) tick (fun b s' => b = false ∧ St t s') := by
  refine ⟨?_⟩
  intro s b s' hp he
  obtain ⟨rfl, rfl⟩ := tick_ok he
  exact ⟨expired_of_none (s := s.asked) hp.1, hp.1, hp.2⟩

/-- what a fail-hard search of the window `(a, b)` returns where the value is `v` (quiescence is one) -/
def failHard (v a b : Int) : Int := max a (min b v)

theorem Bnd.failHard (v a b : Int) (hab : a < b) : Bnd v a b (failHard v a b) := by
  unfold Walleye.failHard Bnd
  refine ⟨fun h => by omega, fun h => by omega, fun h1 h2 => by omega⟩

variable (g : Game P) (ord : Oracle P O)

theorem quiesceLoop_value (f : P → Int → Int → M (SS P O) Int) (qv : P → Int)
    (hf : ∀ m a b s v s', a < b → f m a b s = .ok v s' → v = failHard (qv m) a b) :
    ∀ (l : List P) (a b : Int) (s : SS P O) (v : Int) (s' : SS P O), a < b →
      quiesceLoop f l a b s = .ok v s' → v = min b (maxNeg qv l a) := by
  intro l
  induction l with
  | nil =>
    intro a b s v s' hab he
    obtain ⟨rfl, _⟩ := pure_ok he
    simp only [maxNeg]; omega
  | cons m ms ih =>
    intro a b s v s' hab he
    obtain ⟨r, s1, h1, hexit⟩ := quiesceLoop_cons_run he
    obtain rfl := hf m (-b) (-a) s r s1 (by omega) h1
    unfold failHard at hexit
    simp only [maxNeg]
    rcases hexit with ⟨hc, rfl, _⟩ | ⟨hc, he⟩
    · have := maxNeg_ge qv ms (max a (- qv m))
      omega
    · have e1 : (if -max (-b) (min (-a) (qv m)) > a then -max (-b) (min (-a) (qv m)) else a) = max a (- qv m) := by
        split <;> omega
      rw [e1] at he
      exact ih _ b s1 v s' (by omega) he

/-- quiescence never looks at the clock or the table: its value is the clamped `qval` in any state -/
theorem quiesce_value (hord : OrdPerm ord) :
    ∀ (fuel : Nat) (p : P) (a b : Int) (s : SS P O) (v : Int) (s' : SS P O), a < b →
      quiesce g ord fuel p a b s = .ok v s' → v = failHard (qval g fuel p) a b := by
  intro fuel
  induction fuel with
  | zero => intro p a b s v s' _ he; cases he
  | succ n ih =>
    intro p a b s v s' hab he
    simp only [qval]
    have hge := maxNeg_ge (qval g n) (g.gen p .caps) (g.eval p)
    unfold failHard
    rcases quiesce_succ_run he with ⟨_, rfl, _⟩ | ⟨_, o, e, s1, _, he⟩
    · omega
    · have e0 : (if a < g.eval p then g.eval p else a) = max a (g.eval p) := by split <;> omega
      rw [quiesceLoop_value (quiesce g ord n) (qval g n) (fun m a b s v s' h => ih m a b s v s' h) _ _ b s1 v s'
        (by split <;> omega) he, maxNeg_perm (qval g n) _ _ (hord o e 'Q' _), e0, maxNeg_max_acc]
      omega

def ChildSpec (f : ABFun P O) (val : P → Int) (d1 ply1 : Nat) (t' : DrawTable) : Prop :=
  ∀ m lo hi n, lo < hi → Triple (St t') (f m d1 ply1 lo hi n) (fun v s' => Bnd (val m) lo hi v ∧ St t' s')

/-- the zero-window loop with re-search (the `for mov in moves.iter().skip(1)` loop of
    alpha_beta_search), entered with alpha `a0` -/
theorem abLoop_triple (f : ABFun P O) (val : P → Int) (d1 ply : Nat) (t' : DrawTable)
    (hf : ChildSpec f val d1 (ply + 1) t') (beta a0 : Int) :
    ∀ (ms : List P) (a best mx : Int), ABInv a0 beta a best mx →
      Triple (St t') (abLoop g f ms d1 ply a beta best)
        (fun v s' => Bnd (maxNeg val ms mx) a0 beta v ∧ St t' s') := by
  intro ms
  induction ms with
  | nil =>
    intro a best mx hI
    refine ⟨fun s v s' hs he => ?_⟩
    obtain ⟨rfl, rfl⟩ := pure_ok he
    exact ⟨hI.bnd, hs⟩
  | cons m ms ih =>
    intro a best mx hI
    refine ⟨fun s v s' hst he => ?_⟩
    have hab := hI.lt
    obtain ⟨s1, r0, s2, _, k1, h2, hsearch⟩ := abLoop_cons_run he
    clear he
    obtain ⟨z, hst2⟩ := (hf m (-a - 1) (-a) true (by omega)).run s1 r0 s2 (hst.bk k1) h2
    simp only [maxNeg]
    -- the move's score `sc` is a result for `(a, beta)` against its true value `- val m`, and below
    -- beta the new alpha is the old one raised to it
    obtain ⟨sc, a', s3, hst3, ⟨klo, khi, kin⟩, ka, hstep⟩ : ∃ sc a' s3, St t' s3 ∧ Bnd (- val m) a beta sc ∧
        (sc < beta → a' = max a sc) ∧ abStep g f m ms d1 ply a' beta best sc s3 = .ok v s' := by
      rcases hsearch with ⟨hre, hstep⟩ | ⟨_, r1, s3, h4, hstep⟩
      · exact ⟨_, _, _, hst2, z.of_probe hab hre, fun h => by omega, hstep⟩
      · obtain ⟨z', hst3⟩ := (hf m (-beta) (-a) true (by omega)).run s2 r1 s3 hst2 h4
        exact ⟨_, _, _, hst3, z'.neg, fun _ => rfl, hstep⟩
    clear hsearch z
    have hle := hI.le
    rcases abStep_run hstep with ⟨_, hcut, rfl, k⟩ | ⟨hsc, hlt, s4, k, hrun⟩ | ⟨hle', hrun⟩
    · exact ⟨hI.cut (khi hcut) hcut (Int.le_trans (Int.le_max_right _ _) (maxNeg_ge val ms _)), hst3.bk k⟩
    · obtain rfl := ka hlt
      by_cases hs : sc ≤ a
      · rw [Int.max_eq_left hs] at hrun
        exact (ih a sc _ (hI.failLow (klo hs) hs (by omega))).run s4 v s' (hst3.bk k) hrun
      · obtain rfl := kin (by omega) hlt
        rw [Int.max_eq_right (by omega)] at hrun
        exact (ih _ _ _ (hI.raise (by omega) hlt)).run s4 v s' (hst3.bk k) hrun
    · have hs : sc ≤ a := by omega
      obtain rfl := ka (by omega)
      rw [Int.max_eq_left hs] at hrun
      exact (ih a best _ (hI.failLow (klo hs) hs (by omega))).run s3 v s' hst3 hrun

/-- ranking (PV move, killers) re-tags moves and the oracle permutes them: the value of the node is
    the same for the list as searched -/
theorem headMax_rank (val : P → Int) (hval : ∀ m x, val (g.withOh m x) = val m) (pvm : Option Mv)
    (ks : Array (Option Mv)) (g0 : P) (gs : List P) (m0 : P) (rest : List P)
    (hperm : (m0 :: rest).Perm (rankMoves g pvm ks (g0 :: gs))) :
    maxNeg val gs (- val g0) = maxNeg val rest (- val m0) := by
  unfold rankMoves at hperm
  generalize htag : (fun m => if g.lastMove m = pvm then g.withOh m Gen.posInf
    else if (List.range Gen.killerPlySize).any (fun i => g.lastMove m = ks.getD i none)
      then g.withOh m Gen.killerMoveScore else m) = tag at hperm
  have hv : ∀ m, val (tag m) = val m := by
    intro m
    subst htag
    dsimp only
    split
    · exact hval _ _
    · split
      · exact hval _ _
      · rfl
  apply int_eq_of_forall_ge_iff
  intro x
  rw [headMax_le_iff, headMax_le_iff]
  constructor
  · intro h y hy
    obtain ⟨z, hz, rfl⟩ := List.mem_map.mp (hperm.mem_iff.mp hy)
    rw [hv z]
    exact h z hz
  · intro h z hz
    rw [← hv z]
    exact h _ (hperm.mem_iff.mpr (List.mem_map_of_mem hz))

theorem abBody_triple (hord : OrdPerm ord) (f : ABFun P O) (t1 : DrawTable)
    (p : P) (depth ply : Nat) (val : P → Int) (hd : depth < 3)
    (hval : ∀ m x, val (g.withOh m x) = val m)
    (hf : ChildSpec f val ((if depth = 0 then 1 else depth) - 1) (ply + 1) t1)
    (hrange : -(Gen.mateScore - ply) ≤ nodeValue g val p depth ply ∧ nodeValue g val p depth ply ≤ Gen.mateScore - ply - 1)
    (a b : Int) (hab : a < b) (n : Bool) :
    Triple (St t1) (abBody g ord f p depth ply a b n)
      (fun v s' => Bnd (nodeValue g val p depth ply) a b v ∧ St t1 s') := by
  refine ⟨fun s v s' hst he => ?_⟩
  rcases abBody_run he with ⟨hq, he⟩ | ⟨hq, hrest⟩
  · obtain rfl := quiesce_value g ord hord qFuel p a b s v s' hab he
    rw [nodeValue_quiesce g val ply hq]
    exact ⟨Bnd.failHard _ _ _ hab, hst.bk ((quiesce_bk g ord qFuel p a b).ok he)⟩
  · have hnv := nodeValue_moves g val ply hq
    generalize nodeValue g val p depth ply = W at hrange hnv ⊢
    rcases hrest with ⟨hclamp, rfl, rfl⟩ | ⟨hab', he⟩
    · -- the mate-distance clamp leaves an empty window
      exact ⟨⟨fun h => by omega, fun h => by omega, fun h1 h2 => by omega⟩, hst⟩
    · -- it suffices to prove Bnd for the clamped window
      suffices hs : Bnd W (max a (-Gen.mateScore + ply)) (min b (Gen.mateScore - ply)) v ∧ St t1 s' from
        ⟨hs.1.unclamp (by omega) (by omega), hs.2⟩
      generalize max a (-Gen.mateScore + ply) = a' at he hab' ⊢
      generalize min b (Gen.mateScore - ply) = b' at he hab' ⊢
      -- the null-move branch is dead below depth 3
      have he : abRest g ord f p (if depth = 0 then 1 else depth) ply a' b' s = .ok v s' := by
        rcases abNode_run he with he | ⟨hnull, _⟩
        · exact he
        · exact absurd hnull (null_dead_below_3 n _ (g.inCheck p) (by split <;> omega))
      rcases abRest_run he with ⟨hgen, rfl, rfl⟩ | ⟨_, pvm, ks, o, e, m0, rest, s1, _, k, hmoves, he⟩
      · rw [hgen] at hnv
        rw [hnv]
        exact ⟨Bnd.refl _ _ _, hst⟩
      · cases hgen : g.gen p .all with
        | nil =>
          rw [hgen] at hmoves
          have := hord o e 'A' (rankMoves g pvm ks [])
          rw [← hmoves] at this
          cases this.length_eq
        | cons g0 gs =>
          rw [hgen] at hnv hmoves
          dsimp only at hnv
          rw [hnv, headMax_rank g val hval pvm ks g0 gs m0 rest (hmoves ▸ hord o e 'A' _)]
          obtain ⟨r0, s2, h1, hexit⟩ := abFirst_run he
          obtain ⟨c, hst2⟩ := (hf m0 (-b') (-a') true (by omega)).run s1 r0 s2 (hst.bk k) h1
          obtain ⟨clo, chi, cin⟩ := c.neg
          rcases hexit with ⟨_, hcut, rfl, rfl⟩ | ⟨hbest, hlt, s3, k', he⟩ | ⟨hle, he⟩
          · exact ⟨Bnd.of_ge hab' hcut (Int.le_trans (chi hcut) (maxNeg_ge _ _ _)), hst2⟩
          · have hexact := cin hbest hlt
            rw [hexact] at he hbest hlt
            exact (abLoop_triple g f val _ ply t1 hf b' a' rest _ _ _ (.first_exact hbest hlt)).run s3 v s'
              (hst2.bk k') he
          · exact (abLoop_triple g f val _ ply t1 hf b' a' rest _ _ _ (.first_low hab' (clo hle) hle)).run s2 v s' hst2 he

theorem ab_spec (E : Nat) (hg : GameOK g E) (hord : OrdPerm ord) :
    ∀ (fuel : Nat) (p : P) (depth ply : Nat) (a b : Int) (n : Bool) (t : DrawTable),
      depth < 3 → a < b → (E : Int) + ply + fuel < Gen.mateScore →
      Triple (St t) (alphaBeta g ord fuel p depth ply a b n)
        (fun v s' => Bnd (negamax g fuel depth ply t p) a b v ∧ St t s') := by
  intro fuel
  induction fuel with
  | zero => intro p d ply a b n t _ _ _; exact ⟨fun s v s' _ he => by cases he⟩
  | succ k ih =>
    intro p d ply a b n t hd hab hE
    refine ⟨fun s v s' hst he => ?_⟩
    -- the call as a whole never touches the expiry and restores the table
    have q := (alphaBeta_inner g ord (k + 1) p d ply a b n).ok he
    refine ⟨?_, q.1.1.2.1.trans hst.1, q.2.trans hst.2⟩
    obtain ⟨tk, s1, ht, ⟨rfl, _⟩ | ⟨rfl, s2, k2, hrest⟩⟩ := alphaBeta_succ_run he
    · cases ((tick_never t).run s _ s1 hst ht).1
    · have hst2 : St t s2 := ((tick_never t).run s _ s1 hst ht).2.bk k2
      rw [isThreefold_congr hst2.2 (g.key p)] at hrest
      rcases hrest with ⟨h3, rfl, rfl⟩ | ⟨h3, s3, s4, ha, hb, _⟩
      · rw [negamax_repeated g k d ply t p h3]
        exact Bnd.refl _ _ _
      · have hst3 : St ((t.add (g.key p)).getD t) s3 := by
          obtain ⟨ts, hadd, rfl⟩ := tableAdd_ok ha
          have hc := add_congr hst2.2 (g.key p)
          rw [hadd] at hc
          exact ⟨hst2.1, hc⟩
        have hrange := negamax_range g E hg (k + 1) d ply t p hE
        rw [negamax_succ g k d ply t p h3] at hrange ⊢
        have hchild : ChildSpec (alphaBeta g ord k)
            (negamax g k ((if d = 0 then 1 else d) - 1) (ply + 1) ((t.add (g.key p)).getD t))
            ((if d = 0 then 1 else d) - 1) (ply + 1) ((t.add (g.key p)).getD t) := fun m lo hi nn hlh =>
          ih m _ (ply + 1) lo hi nn _ (by split <;> omega) hlh (by push_cast; push_cast at hE; omega)
        exact ((abBody_triple g ord hord (alphaBeta g ord k) _ p d ply _ hd (fun m x => hg.ohV _ _ _ _ m x) hchild
          hrange a b hab n).run s3 v s4 hst3 hb).1

theorem ab_exact (E : Nat) (hg : GameOK g E) (hord : OrdPerm ord) (fuel : Nat) (p : P) (depth ply : Nat)
    (a b : Int) (n : Bool) (t : DrawTable) (s s' : SS P O) (v : Int)
    (hd : depth < 3) (hE : (E : Int) + ply + fuel < Gen.mateScore) (hst : St t s)
    (h1 : a < negamax g fuel depth ply t p) (h2 : negamax g fuel depth ply t p < b)
    (he : alphaBeta g ord fuel p depth ply a b n s = .ok v s') :
    v = negamax g fuel depth ply t p :=
  ((ab_spec g ord E hg hord fuel p depth ply a b n t hd (by omega) hE).run s v s' hst he).1.exact h1 h2

end Walleye
