/-
  Facts about the UCI text of a move (four or five ASCII characters).  The text is the concatenation of
  two square texts and at most one letter, so everything `make_move` asks of it follows from what the
  64 square texts are (one kernel evaluation, `sqTextOK_all`) and from where a pattern can begin.
  `textOK` / `textOK_all` at the end restate the facts as one Boolean table over all 64 x 64 x 5 texts, the
  form in which the documents of the correspondence run cite them; no proof goes through that table.  (C04)
-/
import Walleye.Model.UciText
import Walleye.Proofs.Key
namespace Walleye
open Str

def uciOf (f t : Point) (pr : Option Kind) : List Char :=
  pointDisplay f ++ pointDisplay t ++ (match pr with | some k => [Gen.kindAlg k] | none => [])

def promos : List (Option Kind) := [none, some .queen, some .knight, some .bishop, some .rook]

/-- the promotion piece `make_move` reads from the fifth character -/
def letterKind (ch : Char) : Kind :=
  if ch = 'q' then .queen else if ch = 'n' then .knight
  else if ch = 'b' then .bishop else if ch = 'r' then .rook else .queen

/-- every string operation of `make_move` on the text of (f, t, pr) gives what the move says -/
def textOK (f t : Point) (pr : Option Kind) : Bool :=
  let mv := uciOf f t pr
  (byteSlice mv 0 2 == some (pointDisplay f)) && (byteSlice mv 2 4 == some (pointDisplay t)) &&
  (parsePoint? (pointDisplay f) == some f) && (parsePoint? (pointDisplay t) == some t) &&
  (contains mv ['a', '8'] == (decide (f = ⟨2, 2⟩) || decide (t = ⟨2, 2⟩))) &&
  (contains mv ['h', '8'] == (decide (f = ⟨2, 9⟩) || decide (t = ⟨2, 9⟩))) &&
  (contains mv ['a', '1'] == (decide (f = ⟨9, 2⟩) || decide (t = ⟨9, 2⟩))) &&
  (contains mv ['h', '1'] == (decide (f = ⟨9, 9⟩) || decide (t = ⟨9, 9⟩))) &&
  (decide (byteLen mv = 5) == pr.isSome) &&
  (match pr with | some k => mv[4]?.map letterKind == some k | none => true) &&
  (decide (mv = Gen.wksStr.toList) == (decide (f = ⟨9, 6⟩) && decide (t = ⟨9, 8⟩) && pr.isNone)) &&
  (decide (mv = Gen.wqsStr.toList) == (decide (f = ⟨9, 6⟩) && decide (t = ⟨9, 4⟩) && pr.isNone)) &&
  (decide (mv = Gen.bksStr.toList) == (decide (f = ⟨2, 6⟩) && decide (t = ⟨2, 8⟩) && pr.isNone)) &&
  (decide (mv = Gen.bqsStr.toList) == (decide (f = ⟨2, 6⟩) && decide (t = ⟨2, 4⟩) && pr.isNone))

def sqTextOK (f : Point) : Bool :=
  (pointDisplay f).all (·.utf8Size == 1) && (pointDisplay f).map isDigit == [false, true] &&
    parsePoint? (pointDisplay f) == some f && !(pointDisplay f).contains ' '

theorem parsePoint?_eq_some {s : List Char} {p : Point} : parsePoint? s = some p ↔ pointFromStr s = .ok p := by
  unfold parsePoint?
  split
  · rename_i q hq; rw [hq]; exact ⟨fun e => by rw [Option.some.inj e], fun e => by rw [Outcome.ok.inj e]⟩
  · rename_i hn; exact ⟨nofun, fun e => absurd e (hn p)⟩

theorem parsePoint?_onBoard {s : List Char} {pt : Point} (h : parsePoint? s = some pt) : OnBoard pt := by
  have hp := parsePoint?_eq_some.mp h
  revert hp
  unfold pointFromStr
  -- one `split` per test of `Point::from_str`; only the innermost branch returns a point
  split
  · nofun
  · split
    · rename_i c r _ _
      split
      · nofun
      · rename_i col hcol
        split
        · dsimp only
          split
          · rename_i hrow
            intro hp; cases hp
            obtain ⟨l₁, l₂, e, _⟩ := List.lookup_eq_some_iff.mp hcol
            have hc : col < 8 := (by decide : ∀ x ∈ Gen.colLetters, x.2 < 8) (c, col) (by rw [e]; simp)
            simp only [Gen.boardStart, Gen.boardEnd] at hrow ⊢
            unfold OnBoard; simp only; omega
          · nofun
        · nofun
    · nofun

theorem sqTextOK_all : boardCoords.all sqTextOK = true := by decide +kernel

structure SqText (f : Point) (a b : Char) : Prop where
  text : pointDisplay f = [a, b]
  bytes : a.utf8Size = 1 ∧ b.utf8Size = 1
  digit : isDigit a = false ∧ isDigit b = true
  parse : parsePoint? [a, b] = some f
  noBlank : ' ' ∉ [a, b]

theorem pointDisplay_spec (f : Point) (hf : OnBoard f) : ∃ a b, SqText f a b := by
  have h := List.all_eq_true.mp sqTextOK_all f ((mem_boardCoords f).mpr hf)
  obtain ⟨h1, h2, h3, h4⟩ : (_ ∧ _) ∧ (_ ∧ _) ∧ _ ∧ _ := by simpa [sqTextOK, pointDisplay, and_assoc] using h
  exact ⟨_, _, rfl, h1, h2, h3, by simpa using h4⟩

theorem parsePoint?_pointDisplay {f : Point} (hf : OnBoard f) : parsePoint? (pointDisplay f) = some f := by
  obtain ⟨a, b, sf⟩ := pointDisplay_spec f hf
  rw [sf.text]; exact sf.parse

theorem pointDisplay_inj {f g : Point} (hf : OnBoard f) (hg : OnBoard g) :
    pointDisplay f = pointDisplay g ↔ f = g := by
  refine ⟨fun h => ?_, fun h => h ▸ rfl⟩
  have pf := parsePoint?_pointDisplay hf
  rw [h, parsePoint?_pointDisplay hg] at pf
  exact (Option.some.inj pf).symm

section
variable {a b c d : Char} {l : List Char}

theorem byteSlice_0_2 (ha : a.utf8Size = 1) (hb : b.utf8Size = 1) :
    byteSlice (a :: b :: l) 0 2 = some [a, b] := by
  simp [byteSlice, dropBytes, takeBytes, ha, hb]

theorem byteSlice_2_4 (ha : a.utf8Size = 1) (hb : b.utf8Size = 1) (hc : c.utf8Size = 1) (hd : d.utf8Size = 1) :
    byteSlice (a :: b :: c :: d :: l) 2 4 = some [c, d] := by
  simp [byteSlice, dropBytes, takeBytes, ha, hb, hc, hd]

/-- a two-character pattern that does not begin with a digit can start only at offset 0 or 2 of a move text -/
theorem contains_pair {x y : Char} (hx : isDigit x = false) (hb : isDigit b = true) (hd : isDigit d = true)
    (hl : l.length ≤ 1) :
    contains (a :: b :: c :: d :: l) [x, y] = true ↔ [a, b] = [x, y] ∨ [c, d] = [x, y] := by
  have nb : x ≠ b := by rintro rfl; rw [hx] at hb; cases hb
  have nd : x ≠ d := by rintro rfl; rw [hx] at hd; cases hd
  match l, hl with
  | [], _ => simp [contains, isPrefix, nb, @eq_comm _ x, @eq_comm _ y]
  | [e], _ => simp [contains, isPrefix, nb, nd, @eq_comm _ x, @eq_comm _ y]

end

theorem kindAlg_inj {k k' : Kind} (h : Gen.kindAlg k = Gen.kindAlg k') : k = k' := by
  cases k <;> cases k' <;> first | rfl | exact absurd h (by decide)

theorem uciOf_cons {f t : Point} {pr : Option Kind} {a b c d : Char} (ef : pointDisplay f = [a, b])
    (et : pointDisplay t = [c, d]) : uciOf f t pr = a :: b :: c :: d :: (pr.map Gen.kindAlg).toList := by
  cases pr <;> simp [uciOf, ef, et]

section
variable {f t : Point} {pr : Option Kind} (hf : OnBoard f) (ht : OnBoard t)
include hf ht

theorem uciOf_inj {f' t' : Point} {pr' : Option Kind} (hf' : OnBoard f') (ht' : OnBoard t') :
    uciOf f t pr = uciOf f' t' pr' ↔ f = f' ∧ t = t' ∧ pr = pr' := by
  refine ⟨fun h => ?_, fun ⟨h1, h2, h3⟩ => by rw [h1, h2, h3]⟩
  simp only [uciOf, pointDisplay, List.cons_append, List.nil_append, List.cons.injEq] at h
  obtain ⟨a1, a2, b1, b2, h⟩ := h
  refine ⟨(pointDisplay_inj hf hf').mp (by simp [pointDisplay, a1, a2]),
    (pointDisplay_inj ht ht').mp (by simp [pointDisplay, b1, b2]), ?_⟩
  cases pr <;> cases pr' <;> first | rfl | cases h | exact congrArg some (kindAlg_inj (List.head_eq_of_cons_eq h))

theorem contains_uciOf {g : Point} (hg : OnBoard g) :
    contains (uciOf f t pr) (pointDisplay g) = true ↔ f = g ∨ t = g := by
  obtain ⟨a, b, sf⟩ := pointDisplay_spec f hf
  obtain ⟨c, d, st⟩ := pointDisplay_spec t ht
  obtain ⟨x, y, sg⟩ := pointDisplay_spec g hg
  rw [← pointDisplay_inj hf hg, ← pointDisplay_inj ht hg, uciOf_cons sf.text st.text, sf.text, st.text, sg.text]
  exact contains_pair sg.digit.1 sf.digit.2 st.digit.2 (by cases pr <;> simp)

theorem uciOf_read :
    byteSlice (uciOf f t pr) 0 2 = some (pointDisplay f) ∧ byteSlice (uciOf f t pr) 2 4 = some (pointDisplay t) ∧
    (byteLen (uciOf f t pr) = 5 ↔ pr.isSome = true) := by
  obtain ⟨a, b, sf⟩ := pointDisplay_spec f hf
  obtain ⟨c, d, st⟩ := pointDisplay_spec t ht
  obtain ⟨ha, hb⟩ := sf.bytes
  obtain ⟨hc, hd⟩ := st.bytes
  rw [uciOf_cons sf.text st.text, sf.text, st.text]
  refine ⟨byteSlice_0_2 ha hb, byteSlice_2_4 ha hb hc hd, ?_⟩
  cases pr with
  | none => simp [byteLen, ha, hb, hc, hd]
  | some k => have : (Gen.kindAlg k).utf8Size = 1 := by cases k <;> rfl
              simp [byteLen, ha, hb, hc, hd, this]

theorem uciOf_letter {k : Kind} (hp : some k ∈ promos) : (uciOf f t (some k))[4]?.map letterKind = some k := by
  obtain ⟨a, b, sf⟩ := pointDisplay_spec f hf
  obtain ⟨c, d, st⟩ := pointDisplay_spec t ht
  rw [uciOf_cons sf.text st.text]
  simp only [promos, List.mem_cons, List.not_mem_nil, or_false, reduceCtorEq, false_or, Option.some.injEq] at hp
  rcases hp with rfl | rfl | rfl | rfl <;> rfl

end

theorem textOK_of (f t : Point) (pr : Option Kind) (hf : OnBoard f) (ht : OnBoard t) (hp : pr ∈ promos) :
    textOK f t pr = true := by
  obtain ⟨r1, r2, r5⟩ := uciOf_read (pr := pr) hf ht
  have r3 := parsePoint?_pointDisplay hf
  have r4 := parsePoint?_pointDisplay ht
  have corner : ∀ g, OnBoard g → contains (uciOf f t pr) (pointDisplay g) = (decide (f = g) || decide (t = g)) := by
    intro g hg; rw [Bool.eq_iff_iff, contains_uciOf hf ht hg]; simp
  have castle : ∀ f' t', OnBoard f' → OnBoard t' →
      decide (uciOf f t pr = uciOf f' t' none) = (decide (f = f') && decide (t = t') && pr.isNone) := by
    intro f' t' hf' ht'
    rw [Bool.eq_iff_iff]; simp [uciOf_inj hf ht hf' ht', and_assoc, Option.isNone_iff_eq_none]
  -- below, `['a', '8']` is `pointDisplay ⟨2, 2⟩` and `Gen.wksStr.toList` is `uciOf ⟨9, 6⟩ ⟨9, 8⟩ none` by evaluation
  unfold textOK
  simp only [Bool.and_eq_true, beq_iff_eq]
  refine ⟨⟨⟨⟨⟨⟨⟨⟨⟨⟨⟨⟨⟨r1, r2⟩, r3⟩, r4⟩, ?_⟩, ?_⟩, ?_⟩, ?_⟩, ?_⟩, ?_⟩, ?_⟩, ?_⟩, ?_⟩, ?_⟩
  · exact corner ⟨2, 2⟩ (by decide)
  · exact corner ⟨2, 9⟩ (by decide)
  · exact corner ⟨9, 2⟩ (by decide)
  · exact corner ⟨9, 9⟩ (by decide)
  · rw [Bool.eq_iff_iff, decide_eq_true_eq]; exact r5
  · cases pr with
    | none => rfl
    | some k => exact beq_iff_eq.mpr (uciOf_letter hf ht hp)
  · exact castle ⟨9, 6⟩ ⟨9, 8⟩ (by decide) (by decide)
  · exact castle ⟨9, 6⟩ ⟨9, 4⟩ (by decide) (by decide)
  · exact castle ⟨2, 6⟩ ⟨2, 8⟩ (by decide) (by decide)
  · exact castle ⟨2, 6⟩ ⟨2, 4⟩ (by decide) (by decide)

theorem textOK_all : (boardCoords.all fun f => boardCoords.all fun t => promos.all fun pr => textOK f t pr) = true := by
  simp only [List.all_eq_true, mem_boardCoords]
  exact fun f hf t ht pr hp => textOK_of f t pr hf ht hp

end Walleye
