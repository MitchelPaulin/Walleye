/-
  C10 at EVERY iteration depth and for EVERY clock: the root loop of `get_best_move` searches each
  root move with the window (-inf, -alpha) and alpha only ever grows; a root move into a position
  that has already occurred twice is valued 0 by its child call before anything else is looked at.
  Hence an iteration that runs to its end before the clock expires ends with alpha ≥ 0 whenever such
  a move exists — null-move pruning, re-searches and the inexactness of deep iterations do not
  matter, because nothing ever lowers alpha.  And what the loop reports: the last info line of an
  iteration carries its final alpha (`rootLoop_last_info`).
-/
import Walleye.Proofs.Range
import Walleye.Proofs.RootRuns
namespace Walleye
open DrawTable

variable {P O : Type} (g : Game P) (ord : Oracle P O)

theorem rootLoop_nonneg {fuel curDepth : Nat} {first : P} {t : DrawTable} :
    ∀ {l : List P} {alpha : Int} {best : Option P} {s s' : SS P O} {A : Int} {B : Option P},
      TableEq s.table t →
      rootLoop g ord (fuel + 1) curDepth first l alpha best s = .ok (some (A, B)) s' →
      s'.expired = false →
      alpha ≤ A ∧ ((∃ m ∈ l, t.isThreefold (g.key m) = true) → 0 ≤ A) := by
  intro l
  induction l with
  | nil =>
    intro alpha best s s' A B _ he _
    cases (rootLoop_nil_run g ord he).1
    exact ⟨Int.le_refl _, fun ⟨m, hm, _⟩ => by cases hm⟩
  | cons m ms ih =>
    intro alpha best s s' A B hte he hfin
    obtain ⟨_, ⟨⟩⟩ | ⟨r0, s2, s3, -, h2, k3, hc⟩ := rootLoop_cons_run g ord he
    have hte3 : TableEq s3.table t := by
      rw [k3.table]; exact ((alphaBeta_inner g ord _ m _ 1 _ _ true).ok h2).2.trans hte
    -- the clock has not expired at the end, so it had not when the rest of the list was started
    have hnx : ∀ {a b s0}, rootLoop g ord (fuel + 1) curDepth first ms a b s0 = .ok (some (A, B)) s' → NX s0 :=
      fun h => NX_of_le (rootLoop_run_le g ord h) hfin
    -- nor after the child's search: a repeated child was valued 0
    have hrep : NX s3 → t.isThreefold (g.key m) = true → r0 = 0 := fun hx h3f =>
      alphaBeta_repeated_run g ord h2 (NX_of_le k3.le hx) ((isThreefold_congr hte _).trans h3f)
    have hcons : (t.isThreefold (g.key m) = true → 0 ≤ A) → ((∃ m' ∈ ms, t.isThreefold (g.key m') = true) → 0 ≤ A) →
        (∃ m' ∈ m :: ms, t.isThreefold (g.key m') = true) → 0 ≤ A := by
      rintro h0 hB ⟨m', hm', h3f⟩
      rcases List.mem_cons.mp hm' with rfl | hm'
      · exact h0 h3f
      · exact hB ⟨m', hm', h3f⟩
    rcases hc with ⟨hev, he⟩ | ⟨-, h4, he⟩ | ⟨hev, -, he⟩
    · obtain ⟨hA, hB⟩ := ih hte3 he hfin
      exact ⟨hA, hcons (fun h3f => by have := hrep (hnx he) h3f; omega) hB⟩
    · cases h4.symm.trans (hnx he)
    · obtain ⟨hA, hB⟩ := ih (s := accepted curDepth m (- r0) s3.asked) hte3 he hfin
      have hx3 : NX s3 := NX_of_le ((asked_quiet s3).1.trans (accepted_le _ _ _ _)) (hnx he)
      exact ⟨by omega, hcons (fun h3f => by have := hrep hx3 h3f; omega) hB⟩

/-- `Handover.infos`, the output lines of a list of acts, is another function; this one must stay out
    of sight of the files that `open Handover` (Props/C03, Proofs/HandoverSearch): inside
    `namespace Walleye` it would win over the opened name. -/
def infos (l : List (Report P)) : List Info :=
  l.filterMap fun r => match r with | .info i => some i | .sent _ => none

theorem infosOf_eq_infos (rs : Array (Report P)) : infosOf rs = infos rs.toList := rfl

theorem infos_append (a b : List (Report P)) : infos (a ++ b) = infos a ++ infos b := by
  unfold infos; rw [List.filterMap_append]

theorem rootLoop_last_info {fuel curDepth : Nat} {first : P} {l : List P} {alpha : Int} {best : Option P}
    {s s' : SS P O} {A : Int} {B : Option P}
    (he : rootLoop g ord fuel curDepth first l alpha best s = .ok (some (A, B)) s') :
    ∃ new : List (Report P), s'.reports.toList = s.reports.toList ++ new ∧
      (∀ i ∈ infos new, i.depth = curDepth) ∧
      ((infos new = [] ∧ A = alpha) ∨ ((infos new).getLast?.map Info.eval = some A)) := by
  have rule := rootLoop_rule g ord
    (fun a s1 => ∃ new : List (Report P), s1.reports.toList = s.reports.toList ++ new ∧
      (∀ i ∈ infos new, i.depth = curDepth) ∧
      ((infos new = [] ∧ a = alpha) ∨ ((infos new).getLast?.map Info.eval = some a)))
    fuel curDepth first l ?_ (fun _ _ _ q h => by rw [q.2]; exact h) ?_ alpha best s
    ⟨[], by simp, (fun _ hi => by cases hi), .inl ⟨rfl, rfl⟩⟩
  · rw [he] at rule
    exact rule
  · rintro a s1 ⟨new, hn, hd, hl⟩
    have e : infos (new ++ [Report.sent first]) = infos new := by rw [infos_append]; exact List.append_nil _
    refine ⟨new ++ [.sent first], ?_, by rw [e]; exact hd, by rw [e]; exact hl⟩
    show (s1.reports.push (.sent first)).toList = _
    rw [Array.toList_push, hn, List.append_assoc]
  · rintro x ⟨new, hn, hd, -⟩
    refine ⟨new ++ [.sent x.m, .info ⟨pvPrefix x.s3.cur, curDepth, x.s3.nodes, - x.r⟩], ?_, ?_, .inr ?_⟩
    · rw [accepted_reports, x.quiet.2, hn, List.append_assoc]
    · rw [infos_append]
      intro i hi
      rcases List.mem_append.mp hi with hi | hi
      · exact hd i hi
      · cases List.mem_singleton.mp hi; rfl
    · rw [infos_append]
      exact congrArg (Option.map Info.eval) List.getLast?_concat

end Walleye
