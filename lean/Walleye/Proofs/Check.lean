/-
  C06: `is_check_cords` characterised declaratively on the 12x12 mailbox.
  `AttackedM b ac t k`: some piece of colour `ac` attacks square `t` under the rules of movement —
  a rook/queen (bishop/queen) on a straight (diagonal) line with only empty squares in between, a
  knight a knight's jump away, a pawn diagonally "in front" from the defender's point of view, or
  the enemy king `k` on an adjacent square.  `is_check_cords` takes `k` from the king cache (`kingPt`);
  that the caches point at the kings is `KingsOK`.  A change of the board confined to the row of `t` creates
  no attack on `t` except along that row (`attackedM_of_row`).
-/
import Walleye.Proofs.Targets
import Walleye.Proofs.Fields
namespace Walleye

def LineAttack (b : Board) (ac : Color) (dirs : List (Int × Int)) (k : Kind) (t : Point) : Prop :=
  ∃ d ∈ dirs, ∃ n : Nat, (∀ i : Nat, i < n → (rayAt b t d i).isEmpty = true) ∧
    (rayAt b t d n = .full ⟨ac, k⟩ ∨ rayAt b t d n = .full ⟨ac, .queen⟩)

theorem isPiece_iff (s : Square) (pc : Piece) : s.isPiece pc = true ↔ s = .full pc := by
  cases s <;> simp [Square.isPiece]

theorem walk_sees (b : Board) (hr : RingOK b) (t : Point) (ht : OnBoard t) (d : Int × Int) (hd : UnitDir d)
    (Q : Square → Prop) (hQ : ∀ sq, Q sq → sq.isEmpty = false) :
    Q (walk b d.1 d.2 walkFuel ((t.row : Int) + d.1) ((t.col : Int) + d.2) []).2.2 ↔
      ∃ n : Nat, (∀ i : Nat, i < n → (rayAt b t d i).isEmpty = true) ∧ Q (rayAt b t d n) := by
  obtain ⟨m, e, hne, h4⟩ : ∃ m : Nat,
      (walk b d.1 d.2 walkFuel ((t.row : Int) + d.1) ((t.col : Int) + d.2) []).2.2 = rayAt b t d m ∧
      (rayAt b t d m).isEmpty = false ∧ ∀ i : Nat, i < m → (rayAt b t d i).isEmpty = true :=
    let ⟨m, _, h2, h3, h4⟩ := walk_firstHit b d.1 d.2 walkFuel ((t.row : Int) + d.1) ((t.col : Int) + d.2) []
      ⟨8, by decide, ray_leaves b hr t ht d hd⟩
    ⟨m, h2, h3, h4⟩
  rw [e]
  refine ⟨fun h => ⟨m, h4, h⟩, fun ⟨n, hemp, hq⟩ => ?_⟩
  -- only the first non-empty square has nothing but empty squares before it
  rcases Nat.lt_trichotomy m n with h | h | h
  · rw [hemp m h] at hne; cases hne
  · rw [h]; exact hq
  · have := hQ _ hq
    rw [h4 n h] at this; cases this

theorem lineHit_iff (b : Board) (hr : RingOK b) (t : Point) (ht : OnBoard t) (ac : Color) (k : Kind)
    (dirs : List (Int × Int)) (hdirs : ∀ d ∈ dirs, UnitDir d) :
    (dirs.any fun d =>
      let (_, _, s) := walk b d.1 d.2 walkFuel ((t.row : Int) + d.1) ((t.col : Int) + d.2) []
      s.isPiece ⟨ac, k⟩ || s.isPiece ⟨ac, .queen⟩) = true ↔ LineAttack b ac dirs k t := by
  rw [List.any_eq_true]
  refine exists_congr fun d => and_congr_right fun hd => ?_
  rw [← walk_sees b hr t ht d (hdirs d hd) (fun sq => sq = .full ⟨ac, k⟩ ∨ sq = .full ⟨ac, .queen⟩)
    (by rintro sq (h | h) <;> rw [h] <;> rfl)]
  simp only [Bool.or_eq_true, isPiece_iff]

/-- black pawns move towards larger rows -/
def attackerPawnRow (ac : Color) (row : Nat) : Nat :=
  match ac with
  | .black => row - 1
  | .white => row + 1

def AttackedM (b : Board) (ac : Color) (t : Point) (ak : Point) : Prop :=
  LineAttack b ac Gen.checkRookDirs .rook t ∨ LineAttack b ac Gen.checkBishopDirs .bishop t ∨
  (∃ rc ∈ Gen.knightCords, b.getI ((t.row : Int) + rc.1) ((t.col : Int) + rc.2) = .full ⟨ac, .knight⟩) ∨
  (b.get (attackerPawnRow ac t.row) (t.col - 1) = .full ⟨ac, .pawn⟩ ∨
   b.get (attackerPawnRow ac t.row) (t.col + 1) = .full ⟨ac, .pawn⟩) ∨
  (((ak.row : Int) - t.row).natAbs ≤ 1 ∧ ((ak.col : Int) - t.col).natAbs ≤ 1)

/-- the king caches `wk` / `bk` (from which `is_check` starts) point at the one king of each colour -/
def KingsOK (p : Pos) : Prop :=
  ∀ c : Color, p.board.get (kingPt p c).row (kingPt p c).col = .full ⟨c, .king⟩ ∧
    ∀ r k, p.board.get r k = .full ⟨c, .king⟩ → (⟨r, k⟩ : Point) = kingPt p c

theorem checkRookDirs_unit : ∀ d ∈ Gen.checkRookDirs, UnitDir d := by decide
theorem checkBishopDirs_unit : ∀ d ∈ Gen.checkBishopDirs, UnitDir d := by decide

theorem isCheckCords_iff (p : Pos) (hr : RingOK p.board) (c : Color) (t : Point) (ht : OnBoard t) :
    isCheckCords p c t = true ↔
      AttackedM p.board c.opp t (match c with | .white => p.bk | .black => p.wk) := by
  unfold isCheckCords AttackedM
  simp only [Bool.or_eq_true, decide_eq_true_eq]
  rw [lineHit_iff p.board hr t ht c.opp .rook _ checkRookDirs_unit,
      lineHit_iff p.board hr t ht c.opp .bishop _ checkBishopDirs_unit, List.any_eq_true]
  simp only [isPiece_iff]
  cases c <;> simp only [Color.opp, or_assoc, attackerPawnRow]

theorem isCheckCords_iff_kingPt (p : Pos) (hr : RingOK p.board) (c : Color) (t : Point) (ht : OnBoard t) :
    isCheckCords p c t = true ↔ AttackedM p.board c.opp t (kingPt p c.opp) := by
  cases c <;> exact isCheckCords_iff p hr _ t ht

/-- the king test compares the enemy king with the PROBED square, not with the defender's king cache (the defect
    fixed in b8b9690 of the engine) -/
theorem probe_hit (p : Pos) (c : Color) (sq : Point)
    (hit : (∃ rc ∈ Gen.knightCords,
        (p.board.getI ((sq.row : Int) + rc.1) ((sq.col : Int) + rc.2)).isPiece ⟨c.opp, .knight⟩ = true) ∨
      ((p.board.get (attackerPawnRow c.opp sq.row) (sq.col - 1)).isPiece ⟨c.opp, .pawn⟩ = true ∨
       (p.board.get (attackerPawnRow c.opp sq.row) (sq.col + 1)).isPiece ⟨c.opp, .pawn⟩ = true) ∨
      (((kingPt p c.opp).row : Int) - sq.row).natAbs ≤ 1 ∧ (((kingPt p c.opp).col : Int) - sq.col).natAbs ≤ 1) :
    isCheckCords p c sq = true := by
  unfold isCheckCords
  simp only [Bool.or_eq_true, decide_eq_true_eq, List.any_eq_true]
  rcases hit with hn | hp | hk
  · exact .inl (.inl (.inr hn))
  · exact .inl (.inr (by cases c <;> exact hp))
  · exact .inr (by cases c <;> exact hk)

theorem isCheck_congr (a b : Pos) (c : Color) (h1 : a.board = b.board) (h2 : a.wk = b.wk) (h3 : a.bk = b.bk) :
    isCheck a c = isCheck b c := by
  unfold isCheck isCheckCords
  rw [h1, h2, h3]

theorem isCheck_eq_cords (p : Pos) (c : Color) : isCheck p c = isCheckCords p c (kingPt p c) := by cases c <;> rfl

/-- no rook or queen of `ac` is seen from `t` along `d`: the negation of what `LineAttack … .rook` says of the one
    direction `d` -/
def NoHit (b : Board) (ac : Color) (t : Point) (d : Int × Int) : Prop :=
  ¬ ∃ n : Nat, (∀ i : Nat, i < n → (rayAt b t d i).isEmpty = true) ∧
    (rayAt b t d n = .full ⟨ac, .rook⟩ ∨ rayAt b t d n = .full ⟨ac, .queen⟩)

theorem noHit_of_block (b : Board) (ac : Color) (t : Point) (d : Int × Int) (n : Nat)
    (hemp : ∀ i, i < n → rayAt b t d i = .empty)
    (hblk : rayAt b t d n = .boundary ∨ ∃ R : Piece, R.color ≠ ac ∧ rayAt b t d n = .full R) : NoHit b ac t d := by
  rintro ⟨k, hk, hit⟩
  rcases Nat.lt_trichotomy k n with h | rfl | h
  · rw [hemp k h] at hit; rcases hit with e | e <;> cases e
  · rcases hblk with e | ⟨R, hR, e⟩ <;> rw [e] at hit
    · rcases hit with e | e <;> cases e
    · rcases hit with e | e <;> exact hR (Square.full.inj e ▸ rfl)
  · have := hk n h
    rcases hblk with e | ⟨R, -, e⟩ <;> rw [e] at this <;> cases this

theorem attackedM_of_row (b b' : Board) (t : Point) (ac : Color) (ak : Point) (ht : 1 ≤ t.row)
    (hoff : ∀ r k, r ≠ t.row → b'.get r k = b.get r k)
    (hE : NoHit b' ac t (0, 1)) (hW : NoHit b' ac t (0, -1)) :
    AttackedM b' ac t ak → AttackedM b ac t ak := by
  unfold AttackedM
  have tr := fun d hd i => rayAt_off_row b b' t hoff d hd i
  rintro (hx | hx | hx | hx | hx)
  · obtain ⟨d, hd, n, hemp, hhit⟩ := hx
    simp only [Gen.checkRookDirs, List.mem_cons, List.mem_nil_iff, or_false] at hd
    -- up and down the board looks as before (`tr`); along the row itself nothing is seen (`hE`, `hW`)
    rcases hd with rfl | rfl | rfl | rfl
    · left
      exact ⟨(1, 0), by decide, n, fun i hi => by rw [← tr (1, 0) (Or.inl rfl)]; exact hemp i hi,
        by rw [← tr (1, 0) (Or.inl rfl)]; exact hhit⟩
    · left
      exact ⟨(-1, 0), by decide, n, fun i hi => by rw [← tr (-1, 0) (Or.inr rfl)]; exact hemp i hi,
        by rw [← tr (-1, 0) (Or.inr rfl)]; exact hhit⟩
    · exact absurd ⟨n, hemp, hhit⟩ hE
    · exact absurd ⟨n, hemp, hhit⟩ hW
  · obtain ⟨d, hd, n, hemp, hhit⟩ := hx
    right; left
    have hd1 : d.1 = 1 ∨ d.1 = -1 := by
      simp only [Gen.checkBishopDirs, List.mem_cons, List.mem_nil_iff, or_false] at hd
      rcases hd with rfl | rfl | rfl | rfl <;> simp
    exact ⟨d, hd, n, fun i hi => by rw [← tr d hd1]; exact hemp i hi, by rw [← tr d hd1]; exact hhit⟩
  · obtain ⟨rc, hrc, hk⟩ := hx
    right; right; left
    refine ⟨rc, hrc, ?_⟩
    rw [← getI_off_row b b' t.row hoff _ _ ?_]
    · exact hk
    · simp only [Gen.knightCords, List.mem_cons, List.mem_nil_iff, or_false] at hrc
      rcases hrc with rfl | rfl | rfl | rfl | rfl | rfl | rfl | rfl <;> simp only <;> omega
  · right; right; right; left
    have hne : attackerPawnRow ac t.row ≠ t.row := by unfold attackerPawnRow; cases ac <;> simp only <;> omega
    rw [← hoff _ _ hne, ← hoff _ _ hne]
    exact hx
  · right; right; right; right; exact hx

end Walleye
