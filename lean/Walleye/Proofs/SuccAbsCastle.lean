/-
  C02: castling successors are `Spec.apply` of the king's two-square move (`castleMove`).  One statement over
  `CastlingType`, resting on `castleSucc_eq` (Proofs/Succ), which says in terms of the mailbox geometry of the
  four castlings (`homeRow`, `kFrom`, `kTo`, `rFrom`, `rTo`; the table stands there) what the four arms of
  `castleSucc` do.  `castled` is the board afterwards, with what can be read off it.
-/
import Walleye.Proofs.SuccAbs
namespace Walleye

variable (h : Hasher)

def castleMove : CastlingType → Spec.Move
  | .wks => ⟨⟨4, 0⟩, ⟨6, 0⟩, none⟩
  | .wqs => ⟨⟨4, 0⟩, ⟨2, 0⟩, none⟩
  | .bks => ⟨⟨4, 7⟩, ⟨6, 7⟩, none⟩
  | .bqs => ⟨⟨4, 7⟩, ⟨2, 7⟩, none⟩

/-- what the proofs below ask of the columns of a castling -/
structure CCols (kto rfrom rto : Nat) : Prop where
  rfrom_ne_kFrom : rfrom ≠ kFrom
  rfrom_ne_kto : rfrom ≠ kto
  rto_ne_kto : rto ≠ kto
  kto_on : 2 ≤ kto ∧ kto ≤ 9
  rfrom_on : 2 ≤ rfrom ∧ rfrom ≤ 9
  rto_on : 2 ≤ rto ∧ rto ≤ 9

theorem cCols (ct : CastlingType) : CCols (kTo ct) (rFrom ct) (rTo ct) := by
  cases ct <;> constructor <;> decide

theorem homeRow_bounds (c : Color) : 2 ≤ homeRow c ∧ homeRow c ≤ 9 := by cases c <;> decide

theorem castle_squares (ct : CastlingType) :
    castleMove ct = ⟨⟨4, Spec.homeRank (rightColor ct)⟩, specOf ⟨homeRow (rightColor ct), kTo ct⟩, none⟩ ∧
    toPt ⟨4, Spec.homeRank (rightColor ct)⟩ = ⟨homeRow (rightColor ct), kFrom⟩ ∧
    cornerPt ct = ⟨homeRow (rightColor ct), rFrom ct⟩ := by
  cases ct <;> exact ⟨rfl, rfl, rfl⟩

def castled (b : Board) (r kto rfrom rto : Nat) (K R : Piece) : Board :=
  (((b.set r kFrom .empty).set r kto (.full K)).set r rfrom .empty).set r rto (.full R)

theorem castled_off_row (b : Board) (r kto rfrom rto : Nat) (K R : Piece) :
    ∀ r' k, r' ≠ r → (castled b r kto rfrom rto K R).get r' k = b.get r' k := by
  intro r' k hne
  unfold castled
  rw [Board.get_set_ne _ _ _ _ _ _ (by omega), Board.get_set_ne _ _ _ _ _ _ (by omega),
    Board.get_set_ne _ _ _ _ _ _ (by omega), Board.get_set_ne _ _ _ _ _ _ (by omega)]

theorem castled_other (b : Board) (r kto rfrom rto : Nat) (K R : Piece) (k : Nat)
    (h1 : k ≠ kFrom) (h2 : k ≠ kto) (h3 : k ≠ rfrom) (h4 : k ≠ rto) :
    (castled b r kto rfrom rto K R).get r k = b.get r k := by
  unfold castled
  rw [Board.get_set_ne _ _ _ _ _ _ (by omega), Board.get_set_ne _ _ _ _ _ _ (by omega),
    Board.get_set_ne _ _ _ _ _ _ (by omega), Board.get_set_ne _ _ _ _ _ _ (by omega)]

theorem castled_rto (b : Board) (r kto rfrom rto : Nat) (K R : Piece) (hr : r < 12) (hc : rto < 12) :
    (castled b r kto rfrom rto K R).get r rto = .full R := by
  unfold castled; exact Board.get_set_eq _ _ _ _ hr hc

theorem castled_rfrom (b : Board) (r kto rfrom rto : Nat) (K R : Piece) (hr : r < 12) (hc : rfrom < 12) (hne : rto ≠ rfrom) :
    (castled b r kto rfrom rto K R).get r rfrom = .empty := by
  unfold castled
  rw [Board.get_set_ne _ _ _ _ _ _ (by omega)]; exact Board.get_set_eq _ _ _ _ hr hc

theorem castled_ring (b : Board) (hr : RingOK b) (r kto rfrom rto : Nat) (K R : Piece) (cc : CCols kto rfrom rto)
    (hrow : 2 ≤ r ∧ r ≤ 9) : RingOK (castled b r kto rfrom rto K R) := by
  unfold castled
  have ob : ∀ k, 2 ≤ k ∧ k ≤ 9 → OnBoard ⟨r, k⟩ := fun k hk => by unfold OnBoard; simp only; omega
  exact ringOK_set _ ⟨r, rto⟩ _ (ringOK_set _ ⟨r, rfrom⟩ _ (ringOK_set _ ⟨r, kto⟩ _ (ringOK_set _ ⟨r, kFrom⟩ _ hr
    (ob kFrom (by decide))) (ob kto cc.kto_on)) (ob rfrom cc.rfrom_on)) (ob rto cc.rto_on)

theorem castled_inner (b : Board) (hi : InnerOK b) (r kto rfrom rto : Nat) (K R : Piece) :
    InnerOK (castled b r kto rfrom rto K R) := by
  unfold castled
  exact innerOK_set _ ⟨r, rto⟩ _ (innerOK_set _ ⟨r, rfrom⟩ _ (innerOK_set _ ⟨r, kto⟩ _ (innerOK_set _ ⟨r, kFrom⟩ _ hi
    (by simp)) (by simp)) (by simp)) (by simp)

theorem castle_board (q : Pos) (r kto rfrom rto : Nat) (K R : Piece)
    (hk : q.board.get r kFrom = .full K) (hrk : q.board.get r rfrom = .full R) (n1 : rfrom ≠ kFrom) (n2 : rfrom ≠ kto) :
    ((q.movePiece h ⟨r, kFrom⟩ ⟨r, kto⟩).movePiece h ⟨r, rfrom⟩ ⟨r, rto⟩).board = castled q.board r kto rfrom rto K R := by
  have hb1 : (q.movePiece h ⟨r, kFrom⟩ ⟨r, kto⟩).board = (q.board.set r kFrom .empty).set r kto (.full K) :=
    movePiece_board_full h q ⟨r, kFrom⟩ ⟨r, kto⟩ K hk
  have hr' : (q.movePiece h ⟨r, kFrom⟩ ⟨r, kto⟩).board.get r rfrom = .full R := by
    rw [hb1, Board.get_set_ne _ _ _ _ _ _ (fun e => n2 e.2.symm), Board.get_set_ne _ _ _ _ _ _ (fun e => n1 e.2.symm), hrk]
  rw [movePiece_board_full h _ ⟨r, rfrom⟩ ⟨r, rto⟩ R hr', hb1]
  rfl

theorem castled_absCells (Q : Spec.Position) (b : Board) (hQ : Q.cells = absCells b) (r kto rfrom rto : Nat) (K R : Piece)
    (cc : CCols kto rfrom rto) (hr : 2 ≤ r ∧ r ≤ 9) :
    ((((Q.put (specOf ⟨r, kFrom⟩) none).put (specOf ⟨r, kto⟩) (some K)).put (specOf ⟨r, rfrom⟩) none).put
      (specOf ⟨r, rto⟩) (some R)).cells = absCells (castled b r kto rfrom rto K R) :=
  have ob : ∀ k, 2 ≤ k ∧ k ≤ 9 → OnBoard ⟨r, k⟩ := fun k hk => ⟨hr.1, hr.2, hk.1, hk.2⟩
  moved_absCells _ _ (moved_absCells Q b hQ ⟨r, kFrom⟩ ⟨r, kto⟩ K (ob kFrom (by decide)) (ob _ cc.kto_on)) ⟨r, rfrom⟩ ⟨r, rto⟩ R
    (ob _ cc.rfrom_on) (ob _ cc.rto_on)

theorem moveOf_castleSucc (p : Pos) (ct : CastlingType) : moveOf (castleSucc h p ct) = castleMove ct := by
  rw [moveOf_of _ _ _ (castleSucc_lastMove h p ct), castleSucc_promo]
  cases ct <;> rfl

theorem right_mailbox (p : Pos) (lp : LP (abs p)) (hko : KingsOK p) (ct : CastlingType) (hright : p.right ct = true) :
    p.board.get (homeRow (rightColor ct)) kFrom = .full ⟨rightColor ct, .king⟩ ∧
    p.board.get (homeRow (rightColor ct)) (rFrom ct) = .full ⟨rightColor ct, .rook⟩ ∧
    kingPt p (rightColor ct) = ⟨homeRow (rightColor ct), kFrom⟩ := by
  obtain ⟨hK, hR⟩ := lp.right ct ((abs_right_ct p ct).trans hright)
  obtain ⟨_, e1, e2⟩ := castle_squares ct
  have gK := get_of_at p _ (by cases ct <;> decide) _ hK
  have gR := get_of_at p _ (by cases ct <;> decide) _ hR
  rw [e1] at gK; rw [← cornerPt, e2] at gR
  exact ⟨gK, gR, ((hko _).2 _ _ gK).symm⟩

theorem castleSucc_shape (p : Pos) (ct : CastlingType)
    (hkp : kingPt p (rightColor ct) = ⟨homeRow (rightColor ct), kFrom⟩)
    (gK : p.board.get (homeRow (rightColor ct)) kFrom = .full ⟨rightColor ct, .king⟩)
    (gR : p.board.get (homeRow (rightColor ct)) (rFrom ct) = .full ⟨rightColor ct, .rook⟩) :
    (castleSucc h p ct).board =
      castled p.board (homeRow (rightColor ct)) (kTo ct) (rFrom ct) (rTo ct) ⟨rightColor ct, .king⟩ ⟨rightColor ct, .rook⟩ ∧
    ∀ c, kingPt (castleSucc h p ct) c = if c = rightColor ct then ⟨homeRow (rightColor ct), kTo ct⟩ else kingPt p c := by
  rw [castleSucc_eq, hkp]
  refine ⟨?_, fun c => ?_⟩
  · exact (castle_board h _ _ _ _ _ _ _ (by simpa using gK) (by simpa using gR) (cCols ct).rfrom_ne_kFrom (cCols ct).rfrom_ne_kto).trans (by simp)
  · cases c <;> cases rightColor ct <;> rfl

theorem castle_touches (ct ct' : CastlingType) : touchesSq (castleMove ct) (cornerSq ct') = false := by
  cases ct <;> cases ct' <;> rfl

theorem castle_abs (p : Pos) (lp : LP (abs p)) (hko : KingsOK p) (ct : CastlingType) (hside : p.toMove = rightColor ct)
    (hright : p.right ct = true) :
    Spec.isCastle (abs p) (castleMove ct) = true ∧
    abs (castleSucc h p ct) = Spec.apply (abs p) (castleMove ct) := by
  obtain ⟨hK, -⟩ := lp.right ct ((abs_right_ct p ct).trans hright)
  obtain ⟨gK, gR, hkp⟩ := right_mailbox p lp hko ct hright
  obtain ⟨hmv, -, -⟩ := castle_squares ct
  have hPs : (abs p).side = rightColor ct := hside
  have hsrc : (abs p).at (castleMove ct).src = some ⟨rightColor ct, .king⟩ := by rw [hmv]; exact hK
  have hic : Spec.isCastle (abs p) (castleMove ct) = true := by
    unfold Spec.isCastle; rw [hsrc, hPs]; cases ct <;> rfl
  have hne : Spec.isEnPassant (abs p) (castleMove ct) = false := by
    unfold Spec.isEnPassant; rw [hsrc, hPs]; cases ct <;> rfl
  refine ⟨hic, ?_⟩
  apply abs_eq_apply p _ (castleMove ct) _ hsrc
  · rw [apply_cells_castle _ _ _ hsrc hic hne, (castleSucc_shape h p ct hkp gK gR).1, hPs,
      ← castled_absCells (abs p) p.board rfl _ _ _ _ _ _ (cCols ct) (homeRow_bounds _)]
    cases ct <;> rfl
  · exact castleSucc_toMove h p ct
  · intro ct'
    rw [castleSucc_right, castle_touches]
    cases rightColor ct <;> cases rightColor ct' <;> simp
  · rw [castleSucc_ep]; rfl

end Walleye
