/-
  The invariant carried along every chain of generated successors (C02, C05, C13), `Inv`:
    ring in place, en passant target well formed, incremental key = scratch key.
  `succsForTarget` is cut into four named stages `st1` … `st4` (equal to the model definition by `rfl`), each
  with its field lemmas; the en passant successor is `epBoard`, and `castleSucc_eq` writes the four castling
  successors as one chain of mutators (the table of castling squares stands at `homeRow`).  What
  `generate_moves` pushes is `mem_generateMoves`; that it keeps `Inv` is `generateMoves_inv`.
-/
import Walleye.Proofs.Key
import Walleye.Proofs.Fields
import Walleye.Proofs.Targets
namespace Walleye

/-- one row from `t` towards `c`'s own side.  Two uses: for the en passant target `t` and the side to move `c`, the
    square of the pawn that has just double-stepped (`EpWF`, `epBoard`); for a pawn of colour `c` that has
    double-stepped to `t`, the square it passed over (`st3_ep`). -/
def front (c : Color) (t : Point) : Point :=
  match c with
  | .white => ⟨t.row + 1, t.col⟩
  | .black => ⟨t.row - 1, t.col⟩

def EpWF (p : Pos) : Prop :=
  ∀ t, p.ep = some t → OnBoard t ∧ OnBoard (front p.toMove t) ∧
    p.board.get (front p.toMove t).row (front p.toMove t).col = .full ⟨p.toMove.opp, .pawn⟩

/-- The chain invariant.  It asks nothing about legality: C05 (the key) is claimed for every position that
    satisfies it, legal or not, and the key of an en passant capture is right only if the pawn stands where `EpWF`
    says.  So the en passant clause is carried through every stage by hand here, although for a legal position it
    follows from the rules (`epWF_of_lp`, Proofs/LegalPres). -/
structure Inv (h : Hasher) (p : Pos) : Prop where
  ring : RingOK p.board
  ep : EpWF p
  key : KeyOK h p

theorem ringOK_set (b : Board) (pt : Point) (v : Square) (hr : RingOK b) (hpt : OnBoard pt) :
    RingOK (b.set pt.row pt.col v) := by
  intro r c hne
  by_cases he : pt.row = r ∧ pt.col = c
  · obtain ⟨rfl, rfl⟩ := he; exact hpt
  · rw [Board.get_set_ne _ _ _ _ _ _ he] at hne; exact hr r c hne

theorem ringOK_movePiece (h : Hasher) (p : Pos) (s e : Point) (hr : RingOK p.board) (he : OnBoard e) :
    RingOK (p.movePiece h s e).board := by
  rw [movePiece_board]
  split
  · rename_i cur hs
    exact ringOK_set _ e _ (ringOK_set _ s _ hr (hr s.row s.col (by rw [hs]; simp))) he
  · exact hr

theorem keyOK_movePiece (h : Hasher) (p : Pos) (s e : Point) (hr : RingOK p.board) (he : OnBoard e)
    (hk : KeyOK h p) : KeyOK h (p.movePiece h s e) :=
  keyOK_movePiece_of_onBoard h p s e (fun cur hs => hr s.row s.col (by rw [hs]; simp)) he hk

/-- `Inv` without the en passant clause: what each board.rs mutator and each raw update preserves by itself -/
def Good (h : Hasher) (b : Pos) : Prop := RingOK b.board ∧ KeyOK h b

section
variable {h : Hasher} {p : Pos} (hg : Good h p)
include hg

theorem Good.swapColor : Good h (p.swapColor h) := ⟨hg.1, keyOK_swapColor h p hg.2⟩

theorem Good.takeAway (ct : CastlingType) : Good h (p.takeAway h ct) :=
  ⟨(takeAway_board h p ct).symm ▸ hg.1, keyOK_takeAway h p ct hg.2⟩

theorem Good.unsetEp : Good h (p.unsetEp h) := ⟨(unsetEp_board h p).symm ▸ hg.1, keyOK_unsetEp h p hg.2⟩

theorem Good.movePiece (s : Point) {e : Point} (he : OnBoard e) : Good h (p.movePiece h s e) :=
  ⟨ringOK_movePiece h p s e hg.1 he, keyOK_movePiece h p s e hg.1 he hg.2⟩

theorem Good.set {pt : Point} (v : Square) {w : UInt64} (hpt : OnBoard pt)
    (hw : sqKey h (p.board.get pt.row pt.col) pt ^^^ sqKey h v pt = w) :
    Good h { p with board := p.board.set pt.row pt.col v, key := p.key ^^^ w } :=
  ⟨ringOK_set _ pt v hg.1 hpt, keyOK_set h p pt v w hpt hw hg.2⟩

theorem Good.capture {pt : Point} (hpt : OnBoard pt) {pc : Piece} (hget : p.board.get pt.row pt.col = .full pc) :
    Good h { p with board := p.board.set pt.row pt.col .empty, key := p.key ^^^ h.piece pc pt } :=
  hg.set .empty hpt (by rw [hget]; exact UInt64.xor_zero)

theorem Good.setEp (t : Point) (hep : p.ep = none) :
    Good h { p with ep := some t, key := p.key ^^^ h.epFile t.col } :=
  ⟨hg.1, keyOK_setEp h p t hep hg.2⟩

end

theorem Inv.of_good {h : Hasher} {p : Pos} (hg : Good h p) (he : EpWF p) : Inv h p := ⟨hg.1, he, hg.2⟩

theorem Inv.good {h : Hasher} {p : Pos} (hi : Inv h p) : Good h p := ⟨hi.ring, hi.key⟩

/-- clone, side swap, king cache, capture score, piece moved, descriptor -/
def st1 (h : Hasher) (piece : Piece) (p : Pos) (sq mov : Point) : Pos :=
  let nb := { p with promo := none }
  let nb := nb.swapColor h
  let nb := if piece.kind = .king then
      (match piece.color with
       | .white => { nb with wk := mov }
       | .black => { nb with bk := mov })
    else nb
  let nb := match nb.board.get mov.row mov.col with
    | .full tp => { nb with oh := (Gen.mvvLva.getD (Gen.kindIndex tp.kind) #[]).getD (Gen.kindIndex piece.kind) 0 }
    | _ => { nb with oh := 0 }
  let nb := nb.movePiece h sq mov
  { nb with lastMove := some (sq, mov) }

/-- castling rights lost by the origin and by the destination square -/
def st2 (h : Hasher) (piece : Piece) (sq mov : Point) (nb : Pos) : Pos :=
  let nb :=
    if piece.kind = .king then
      (match piece.color with
       | .white => (nb.takeAway h .wks).takeAway h .wqs
       | .black => (nb.takeAway h .bks).takeAway h .bqs)
    else nb.takeAwayOpt h (cornerRight sq)
  nb.takeAwayOpt h (cornerRight mov)

/-- en passant target set by a double step, cleared otherwise -/
def st3 (h : Hasher) (piece : Piece) (sq mov : Point) (nb : Pos) : Pos :=
  if piece.kind = .pawn ∧ ((sq.row : Int) - mov.row).natAbs = 2 then
    let eps : Point := match piece.color with
      | .white => ⟨mov.row + 1, mov.col⟩
      | .black => ⟨mov.row - 1, mov.col⟩
    let nb := nb.unsetEp h
    { nb with ep := some eps, key := nb.key ^^^ h.epFile eps.col }
  else nb.unsetEp h

/-- promotion fan-out or the board itself -/
def st4 (h : Hasher) (piece : Piece) (sq mov : Point) (nb : Pos) : List Pos :=
  if mov.row = Gen.boardStart ∧ piece.color = .white ∧ piece.kind = .pawn then promotePawn h nb .white sq mov
  else if mov.row = Gen.boardEnd - 1 ∧ piece.color = .black ∧ piece.kind = .pawn then promotePawn h nb .black sq mov
  else [nb]

theorem succsForTarget_eq (h : Hasher) (piece : Piece) (p : Pos) (sq mov : Point) :
    succsForTarget h piece p sq mov =
      if isCheck (st1 h piece p sq mov) piece.color then []
      else st4 h piece sq mov (st3 h piece sq mov (st2 h piece sq mov (st1 h piece p sq mov))) := rfl

section
variable (h : Hasher) (piece : Piece) (p : Pos) (sq mov : Point)

/-- stage 1 is the side swap and `move_piece`; everything else it writes is bookkeeping -/
theorem st1_eq : st1 h piece p sq mov =
    ((p.swapColor h).movePiece h sq mov).book
      (if piece = ⟨.white, .king⟩ then mov else p.wk) (if piece = ⟨.black, .king⟩ then mov else p.bk)
      (match p.board.get mov.row mov.col with
        | .full tp => (Gen.mvvLva.getD (Gen.kindIndex tp.kind) #[]).getD (Gen.kindIndex piece.kind) 0
        | _ => 0)
      (some (sq, mov)) none := by
  unfold st1
  extract_lets nb0 nb1 nb2 nb3 nb4
  -- the king cache written or not, the capture score for a full or an empty target: each is one `book`
  have king : nb2 = (p.swapColor h).book (if piece = ⟨.white, .king⟩ then mov else p.wk)
      (if piece = ⟨.black, .king⟩ then mov else p.bk) p.oh p.lastMove none := by
    obtain ⟨c, k⟩ := piece; cases c <;> cases k <;> rfl
  have score : nb3 = nb2.book nb2.wk nb2.bk
      (match nb2.board.get mov.row mov.col with
        | .full tp => (Gen.mvvLva.getD (Gen.kindIndex tp.kind) #[]).getD (Gen.kindIndex piece.kind) 0
        | _ => 0) nb2.lastMove nb2.promo := by
    show (match nb2.board.get mov.row mov.col with | .full tp => _ | _ => _) = _
    split <;> rfl
  refine Eq.trans (congrArg (fun x : Pos => { x with lastMove := some (sq, mov) })
    (?_ : nb4 = ((p.swapColor h).movePiece h sq mov).book _ _ _ p.lastMove none)) (book_lastMove ..)
  show nb3.movePiece h sq mov = _
  rw [score, movePiece_book, king, movePiece_book]
  rfl

theorem st1_toMove : (st1 h piece p sq mov).toMove = p.toMove.opp := by
  rw [st1_eq]; exact movePiece_toMove h _ sq mov

theorem st1_ep : (st1 h piece p sq mov).ep = p.ep := by
  rw [st1_eq]; exact movePiece_ep h _ sq mov

theorem st1_lastMove : (st1 h piece p sq mov).lastMove = some (sq, mov) := rfl

theorem st1_promo : (st1 h piece p sq mov).promo = none := by
  rw [st1_eq]; rfl

theorem st1_right (ct : CastlingType) : (st1 h piece p sq mov).right ct = p.right ct := by
  rw [st1_eq]; exact movePiece_right h _ ct sq mov

theorem st1_kingPt (c : Color) :
    kingPt (st1 h piece p sq mov) c = if piece = ⟨c, .king⟩ then mov else kingPt p c := by
  rw [st1_eq]; cases c <;> rfl

theorem st1_board : (st1 h piece p sq mov).board = (p.movePiece h sq mov).board := by
  rw [st1_eq]
  show ((p.swapColor h).movePiece h sq mov).board = _
  rw [movePiece_board, movePiece_board]
  rfl

theorem st1_good (hg : Good h p) (hm : OnBoard mov) : Good h (st1 h piece p sq mov) := by
  rw [st1_eq]; exact hg.swapColor.movePiece sq hm

theorem st2_ind {P : Pos → Prop} (hP : ∀ x ct, P x → P (x.takeAway h ct)) (nb : Pos) (hnb : P nb) :
    P (st2 h piece sq mov nb) := by
  have opt : ∀ x o, P x → P (x.takeAwayOpt h o) := fun x o hx => by
    cases o with
    | none => exact hx
    | some ct => exact hP x ct hx
  unfold st2
  apply opt
  split
  · split <;> exact hP _ _ (hP _ _ hnb)
  · exact opt _ _ hnb

theorem st2_board (nb : Pos) : (st2 h piece sq mov nb).board = nb.board :=
  st2_ind h piece sq mov (P := fun x => x.board = nb.board) (fun x ct e => (takeAway_board h x ct).trans e) nb rfl

theorem st2_toMove (nb : Pos) : (st2 h piece sq mov nb).toMove = nb.toMove :=
  st2_ind h piece sq mov (P := fun x => x.toMove = nb.toMove) (fun x ct e => (takeAway_toMove h x ct).trans e) nb rfl

theorem st2_ep (nb : Pos) : (st2 h piece sq mov nb).ep = nb.ep :=
  st2_ind h piece sq mov (P := fun x => x.ep = nb.ep) (fun x ct e => (takeAway_ep h x ct).trans e) nb rfl

theorem st2_lastMove (nb : Pos) : (st2 h piece sq mov nb).lastMove = nb.lastMove :=
  st2_ind h piece sq mov (P := fun x => x.lastMove = nb.lastMove) (fun x ct e => (takeAway_lastMove h x ct).trans e) nb rfl

theorem st2_promo (nb : Pos) : (st2 h piece sq mov nb).promo = nb.promo :=
  st2_ind h piece sq mov (P := fun x => x.promo = nb.promo) (fun x ct e => (takeAway_promo h x ct).trans e) nb rfl

theorem st2_good (nb : Pos) (hg : Good h nb) : Good h (st2 h piece sq mov nb) :=
  st2_ind h piece sq mov (fun _ ct hx => hx.takeAway ct) nb hg

theorem st2_right (nb : Pos) (ct : CastlingType) :
    (st2 h piece sq mov nb).right ct =
      (nb.right ct && !(piece.kind == .king && piece.color == rightColor ct) &&
        !(piece.kind != .king && cornerRight sq == some ct) && !(cornerRight mov == some ct)) := by
  unfold st2
  rw [takeAwayOpt_right]
  congr 1
  by_cases hk : piece.kind = .king
  · rw [if_pos hk]
    cases hc : piece.color <;> simp only [takeAway_right] <;> cases ct <;> simp [hk, rightColor]
  · rw [if_neg hk, takeAwayOpt_right]
    simp [bne, beq_false_of_ne hk]

theorem st3_board (nb : Pos) : (st3 h piece sq mov nb).board = nb.board := by
  unfold st3; split <;> simp

theorem st3_toMove (nb : Pos) : (st3 h piece sq mov nb).toMove = nb.toMove := by
  unfold st3; split <;> simp

theorem st3_lastMove (nb : Pos) : (st3 h piece sq mov nb).lastMove = nb.lastMove := by
  unfold st3; split <;> simp

theorem st3_promo (nb : Pos) : (st3 h piece sq mov nb).promo = nb.promo := by
  unfold st3; split <;> simp

theorem st3_ep (nb : Pos) : (st3 h piece sq mov nb).ep =
    if piece.kind = .pawn ∧ ((sq.row : Int) - mov.row).natAbs = 2 then some (front piece.color mov) else none := by
  unfold st3
  split
  · cases piece.color <;> rfl
  · exact unsetEp_ep h nb

theorem st3_good (nb : Pos) (hg : Good h nb) : Good h (st3 h piece sq mov nb) := by
  unfold st3
  split
  · exact hg.unsetEp.setEp _ (unsetEp_ep h nb)
  · exact hg.unsetEp

theorem st3_right (nb : Pos) (ct : CastlingType) : (st3 h piece sq mov nb).right ct = nb.right ct := by
  unfold st3
  cases ct <;> simp only [Pos.right] <;> split <;> simp

theorem st23_kings (nb : Pos) :
    (st3 h piece sq mov (st2 h piece sq mov nb)).wk = nb.wk ∧ (st3 h piece sq mov (st2 h piece sq mov nb)).bk = nb.bk := by
  have h3 : ∀ x : Pos, (st3 h piece sq mov x).wk = x.wk ∧ (st3 h piece sq mov x).bk = x.bk := fun x => by
    unfold st3; constructor <;> split <;> simp
  rw [(h3 _).1, (h3 _).2]
  exact st2_ind h piece sq mov (P := fun x => x.wk = nb.wk ∧ x.bk = nb.bk) (fun x ct e => by simpa using e) nb ⟨rfl, rfl⟩

theorem st123_lastMove :
    (st3 h piece sq mov (st2 h piece sq mov (st1 h piece p sq mov))).lastMove = some (sq, mov) := by
  rw [st3_lastMove, st2_lastMove, st1_lastMove]

theorem st123_promo :
    (st3 h piece sq mov (st2 h piece sq mov (st1 h piece p sq mov))).promo = none := by
  rw [st3_promo, st2_promo, st1_promo]

theorem st4_eq_rows (nb : Pos) : st4 h piece sq mov nb =
    if piece.kind = .pawn ∧
        (mov.row = Gen.boardStart ∧ piece.color = .white ∨ mov.row = Gen.boardEnd - 1 ∧ piece.color = .black)
      then promotePawn h nb piece.color sq mov else [nb] := by
  obtain ⟨c, k⟩ := piece
  cases c <;> simp [st4, and_comm]

end

theorem mem_promotePawn_iff (h : Hasher) (nb : Pos) (color : Color) (start target : Point) (s : Pos) :
    s ∈ promotePawn h nb color start target ↔
      ∃ kind ∈ Gen.promotionOrder, s = { (nb.unsetEp h) with
        board := (nb.unsetEp h).board.set target.row target.col (.full ⟨color, kind⟩)
        lastMove := some (start, target)
        promo := some ⟨color, kind⟩
        oh := if kind = .queen then Gen.queenPromotionScore else Gen.underPromotionScore
        key := (nb.unsetEp h).key ^^^ (h.piece ⟨color, kind⟩ target ^^^ h.piece ⟨color, .pawn⟩ target) } := by
  unfold promotePawn
  rw [List.mem_map]
  exact exists_congr fun kind => and_congr_right fun _ => eq_comm

theorem promotePawn_inv (h : Hasher) (nb : Pos) (color : Color) (start target : Point)
    (hg : Good h nb) (ht : OnBoard target)
    (hp : nb.board.get target.row target.col = .full ⟨color, .pawn⟩) :
    ∀ s ∈ promotePawn h nb color start target,
      Inv h s ∧ s.toMove = nb.toMove ∧ s.lastMove = some (start, target) ∧ s.promo.isSome := by
  intro s hs
  obtain ⟨kind, -, rfl⟩ := (mem_promotePawn_iff ..).mp hs
  refine ⟨.of_good (hg.unsetEp.set (.full ⟨color, kind⟩) ht ?_) ?_, ?_, rfl, rfl⟩
  · rw [unsetEp_board, hp]; exact UInt64.xor_comm _ _
  · intro t ht'; simp only [unsetEp_ep] at ht'; cases ht'
  · simp only [unsetEp_toMove]

theorem succsForTarget_inv (h : Hasher) (piece : Piece) (p : Pos) (sq mov : Point) (mode : Mode)
    (hinv : Inv h p) (hsq : OnBoard sq) (hpc : p.board.get sq.row sq.col = .full piece)
    (hcol : piece.color = p.toMove)
    (hmem : mov ∈ getMoves piece sq.row sq.col p.board mode) :
    ∀ s ∈ succsForTarget h piece p sq mov,
      Inv h s ∧ s.toMove = p.toMove.opp ∧ s.lastMove = some (sq, mov) := by
  intro s hs
  have hmov : OnBoard mov := getMoves_onBoard piece sq.row sq.col p.board mode hinv.ring mov hmem
  rw [succsForTarget_eq] at hs
  split at hs
  · cases hs
  · -- the position after stages 1–3: board, ring and key, side, descriptor
    have hb1 : (st1 h piece p sq mov).board = (p.board.set sq.row sq.col .empty).set mov.row mov.col (.full piece) := by
      rw [st1_board, movePiece_board_full h p sq mov piece hpc]
    have hb3 : (st3 h piece sq mov (st2 h piece sq mov (st1 h piece p sq mov))).board =
        (p.board.set sq.row sq.col .empty).set mov.row mov.col (.full piece) := by
      rw [st3_board, st2_board, hb1]
    have hg3 : Good h (st3 h piece sq mov (st2 h piece sq mov (st1 h piece p sq mov))) :=
      st3_good h piece sq mov _ (st2_good h piece sq mov _ (st1_good h piece p sq mov hinv.good hmov))
    have ht3 : (st3 h piece sq mov (st2 h piece sq mov (st1 h piece p sq mov))).toMove = p.toMove.opp := by
      rw [st3_toMove, st2_toMove, st1_toMove]
    have hl3 := st123_lastMove h piece p sq mov
    have hget : ((p.board.set sq.row sq.col .empty).set mov.row mov.col (.full piece)).get mov.row mov.col = .full piece :=
      Board.get_set_eq _ _ _ _ hmov.lt.1 hmov.lt.2
    have he3 : EpWF (st3 h piece sq mov (st2 h piece sq mov (st1 h piece p sq mov))) := by
      intro t ht
      rw [hb3, ht3]
      rw [st3_ep] at ht
      split at ht
      · rename_i hd
        obtain ⟨hk, hd2⟩ := hd
        have hrow := (pawnMoves_row piece sq.row sq.col p.board mode mov (by
          unfold getMoves at hmem; simpa [hk] using hmem)).imp_right And.right
        -- `t` is the square the pawn has passed over; seen from the other side the pawn stands in front of it
        obtain rfl := Option.some.inj ht
        unfold OnBoard at hsq hmov
        have hff : front piece.color.opp (front piece.color mov) = mov := by
          cases piece.color <;> simp only [front, Color.opp] <;> congr 1 <;> omega
        have hon : OnBoard (front piece.color mov) := by
          unfold OnBoard front
          generalize piece.color = c at hrow ⊢
          cases c <;> simp only [ahead] at hrow ⊢ <;> omega
        rw [← hcol, hff, Color.opp_opp, hget]
        exact ⟨hon, hmov, congrArg Square.full (Piece.eq_mk piece _ _ rfl hk)⟩
      · cases ht
    rw [st4_eq_rows] at hs
    split at hs
    · rename_i hpw
      obtain ⟨hi, htm, hlm, _⟩ := promotePawn_inv h _ piece.color sq mov hg3 hmov
        (by rw [hb3, hget, Piece.eq_mk piece _ _ rfl hpw.1]) s hs
      exact ⟨hi, by rw [htm, ht3], hlm⟩
    · obtain rfl := List.mem_singleton.mp hs
      exact ⟨.of_good hg3 he3, ht3, hl3⟩

theorem pawnMovesEnPassant_eq (piece : Piece) (row col : Nat) (p : Pos) (mov : Point)
    (h : pawnMovesEnPassant piece row col p = some mov) : p.ep = some mov := by
  unfold pawnMovesEnPassant at h
  cases he : p.ep with
  | none => simp [he] at h
  | some dm =>
    simp only [he] at h
    split at h
    · cases h
    · rename_i l r _
      split at h
      · rename_i e; rw [← e]; exact congrArg some (Option.some.inj h)
      · split at h
        · rename_i e; rw [← e]; exact congrArg some (Option.some.inj h)
        · cases h

section
variable (h : Hasher)

/-- the en passant successor before the king-safety test (of `piece` only the colour is read: the block is
    entered for pawns only) -/
def epBoard (piece : Piece) (p : Pos) (sq mov : Point) : Pos :=
  let nb := { p with promo := none }
  let nb := { nb with lastMove := some (sq, mov) }
  let nb := nb.swapColor h
  let nb := nb.unsetEp h
  let nb := nb.movePiece h sq mov
  match piece.color with
  | .white => { nb with board := nb.board.set (mov.row + 1) mov.col .empty,
                        key := nb.key ^^^ h.piece ⟨.black, .pawn⟩ ⟨mov.row + 1, mov.col⟩ }
  | .black => { nb with board := nb.board.set (mov.row - 1) mov.col .empty,
                        key := nb.key ^^^ h.piece ⟨.white, .pawn⟩ ⟨mov.row - 1, mov.col⟩ }

theorem epSuccs_eq (piece : Piece) (p : Pos) (sq : Point) :
    epSuccs h piece p sq =
      if p.ep.isSome ∧ piece.kind = .pawn then
        match pawnMovesEnPassant piece sq.row sq.col p with
        | none => []
        | some mov => if !isCheck (epBoard h piece p sq mov) p.toMove then [epBoard h piece p sq mov] else []
      else [] := rfl

theorem epBoard_board (c : Color) (p : Pos) (sq mov : Point) (hpc : p.board.get sq.row sq.col = .full ⟨c, .pawn⟩) :
    (epBoard h ⟨c, .pawn⟩ p sq mov).board =
      ((p.board.set sq.row sq.col .empty).set mov.row mov.col (.full ⟨c, .pawn⟩)).set
        (front c mov).row (front c mov).col .empty := by
  unfold epBoard front
  have hb : ((({ p with promo := none, lastMove := some (sq, mov) } : Pos).swapColor h).unsetEp h |>.movePiece h sq mov).board
      = (p.board.set sq.row sq.col .empty).set mov.row mov.col (.full ⟨c, .pawn⟩) := by
    rw [movePiece_board_full h _ sq mov ⟨c, .pawn⟩ (by simp; exact hpc)]
    simp
  cases c <;> simp only <;> rw [hb]

section
variable (piece : Piece) (p : Pos) (sq mov : Point)

theorem epBoard_toMove : (epBoard h piece p sq mov).toMove = p.toMove.opp := by
  unfold epBoard; cases piece.color <;> simp

theorem epBoard_ep : (epBoard h piece p sq mov).ep = none := by
  unfold epBoard; cases piece.color <;> simp

theorem epBoard_lastMove : (epBoard h piece p sq mov).lastMove = some (sq, mov) := by
  unfold epBoard; cases piece.color <;> simp

theorem epBoard_promo : (epBoard h piece p sq mov).promo = none := by
  unfold epBoard; cases piece.color <;> simp

theorem epBoard_right (ct : CastlingType) : (epBoard h piece p sq mov).right ct = p.right ct := by
  unfold epBoard; cases piece.color <;> cases ct <;> simp [Pos.right]

theorem epBoard_wk : (epBoard h piece p sq mov).wk = p.wk := by
  unfold epBoard; cases piece.color <;> simp

theorem epBoard_bk : (epBoard h piece p sq mov).bk = p.bk := by
  unfold epBoard; cases piece.color <;> simp

end

end

theorem epSuccs_inv (h : Hasher) (piece : Piece) (p : Pos) (sq : Point)
    (hinv : Inv h p) (hpc : p.board.get sq.row sq.col = .full piece)
    (hcol : piece.color = p.toMove) :
    ∀ s ∈ epSuccs h piece p sq, Inv h s ∧ s.toMove = p.toMove.opp ∧ s.lastMove.isSome := by
  intro s hs
  rw [epSuccs_eq] at hs
  split at hs
  · split at hs
    · cases hs
    · rename_i mov hmv
      obtain rfl := List.mem_singleton.mp (List.mem_ite_nil_right.mp hs).2
      refine ⟨.of_good ?_ (fun t ht => by rw [epBoard_ep] at ht; cases ht), epBoard_toMove .., by rw [epBoard_lastMove]; rfl⟩
      obtain ⟨hmov, hfon, hfp⟩ := hinv.ep mov (pawnMovesEnPassant_eq piece sq.row sq.col p mov hmv)
      have hcap_ne_sq : ¬ (sq.row = (front p.toMove mov).row ∧ sq.col = (front p.toMove mov).col) := by
        intro ⟨e1, e2⟩
        rw [← e1, ← e2, hpc] at hfp
        have := congrArg Piece.color (Square.full.inj hfp)
        simp only at this
        rw [hcol] at this
        exact absurd this (Color.opp_ne p.toMove).symm
      have hcap_ne_mov : ¬ (mov.row = (front p.toMove mov).row ∧ mov.col = (front p.toMove mov).col) := by
        unfold OnBoard at hmov
        intro ⟨e1, _⟩
        unfold front at e1
        cases hc : p.toMove <;> simp only [hc] at e1 <;> omega
      -- clone, descriptor, swap, unset, move: the position `x` the victim is then taken from
      unfold epBoard
      dsimp only
      generalize hx : ((({ p with promo := none, lastMove := some (sq, mov) } : Pos).swapColor h).unsetEp h).movePiece h sq mov = x
      have hg0 : Good h x := hx ▸
        (Good.unsetEp (Good.swapColor (p := { p with promo := none, lastMove := some (sq, mov) }) hinv.good)).movePiece sq hmov
      have hgetcap : x.board.get (front p.toMove mov).row (front p.toMove mov).col = .full ⟨p.toMove.opp, .pawn⟩ := by
        rw [← hx, movePiece_board_full h _ sq mov piece (by simp only [unsetEp_board, swapColor_board]; exact hpc)]
        simp only [unsetEp_board, swapColor_board]
        rw [Board.get_set_ne _ _ _ _ _ _ hcap_ne_mov, Board.get_set_ne _ _ _ _ _ _ hcap_ne_sq, hfp]
      rw [← hcol] at hfon hgetcap
      cases hc : piece.color <;> rw [hc] at hfon hgetcap <;> exact hg0.capture hfon hgetcap
  · cases hs

/-! The squares of the four castlings, and where each table lives.  Mailbox: row `homeRow c`; the king goes from
column `kFrom` to `kTo ct`, the rook from `rFrom ct` to `rTo ct`; `emptyCols ct` must be empty.

                 rightColor  homeRow  kFrom  kTo  rFrom  rTo  emptyCols   castleMove          cornerSq
    wks  (O-O)     white        9       6     8     9     7   [7, 8]      e1g1  (4,0)→(6,0)   h1  (7,0)
    wqs  (O-O-O)   white        9       6     4     2     5   [3, 4, 5]   e1c1  (4,0)→(2,0)   a1  (0,0)
    bks  (O-O)     black        2       6     8     9     7   [7, 8]      e8g8  (4,7)→(6,7)   h8  (7,7)
    bqs  (O-O-O)   black        2       6     4     2     5   [3, 4, 5]   e8c8  (4,7)→(2,7)   a8  (0,7)

`rightColor` (Proofs/Fields), `ksOf` / `qsOf` (the two rights of a colour) and the mailbox columns are here;
`cornerSq` (the rook's corner as a square of the specification, Proofs/ApplySpec), `cornerPt = toPt ∘ cornerSq`
(Proofs/SuccAbs: `cornerRight` read backwards), `castleMove` (the king's move for the specification) and
`castle_squares`, which ties mailbox and specification squares together (Proofs/SuccAbsCastle), `emptyCols`
(Proofs/CastleSound).  The specification has `Spec.homeRank` and writes the files as literals (king 4 → 6 or 2,
rook 7 → 5 or 0 → 3). -/

def homeRow : Color → Nat
  | .white => 9 | .black => 2

abbrev kFrom : Nat := 6

def kTo : CastlingType → Nat
  | .wks => 8 | .wqs => 4 | .bks => 8 | .bqs => 4
def rFrom : CastlingType → Nat
  | .wks => 9 | .wqs => 2 | .bks => 9 | .bqs => 2
def rTo : CastlingType → Nat
  | .wks => 7 | .wqs => 5 | .bks => 7 | .bqs => 5

def ksOf : Color → CastlingType
  | .white => .wks | .black => .bks
def qsOf : Color → CastlingType
  | .white => .wqs | .black => .bqs

theorem ne_ksOf_qsOf (c : Color) (ct : CastlingType) :
    (decide (ksOf c ≠ ct) && decide (qsOf c ≠ ct)) = decide (rightColor ct ≠ c) := by
  cases c <;> cases ct <;> rfl

section
variable (h : Hasher)

theorem castleSucc_eq (p : Pos) (ct : CastlingType) :
    castleSucc h p ct =
      ((((((p.swapColor h).unsetEp h).takeAway h (ksOf (rightColor ct))).takeAway h (qsOf (rightColor ct))).movePiece h
          (kingPt p (rightColor ct)) ⟨homeRow (rightColor ct), kTo ct⟩).movePiece h
          ⟨homeRow (rightColor ct), rFrom ct⟩ ⟨homeRow (rightColor ct), rTo ct⟩).book
        (if rightColor ct = .white then ⟨homeRow (rightColor ct), kTo ct⟩ else p.wk)
        (if rightColor ct = .black then ⟨homeRow (rightColor ct), kTo ct⟩ else p.bk) p.oh
        (some (⟨homeRow (rightColor ct), kFrom⟩, ⟨homeRow (rightColor ct), kTo ct⟩)) none := by
  -- the clone's cleared `promo` travels through the mutators, the king cache and the descriptor
  -- through the two hops
  have head : ∀ a b, ((((({ p with promo := none } : Pos).swapColor h).unsetEp h).takeAway h a).takeAway h b) =
      ((((p.swapColor h).unsetEp h).takeAway h a).takeAway h b).book p.wk p.bk p.oh p.lastMove none := fun a b => by
    rw [← takeAway_book, ← takeAway_book, ← unsetEp_book]; rfl
  have tail : ∀ (X : Pos) wk0 bk0 oh lm0 wk bk lm k1 k2 r1 r2,
      (({ X.book wk0 bk0 oh lm0 none with wk := wk, bk := bk, lastMove := lm } : Pos).movePiece h k1 k2).movePiece h r1 r2 =
        ((X.movePiece h k1 k2).movePiece h r1 r2).book wk bk oh lm none := fun X wk0 bk0 oh lm0 wk bk lm k1 k2 r1 r2 => by
    rw [← movePiece_book, ← movePiece_book]; rfl
  cases ct <;> unfold castleSucc <;> dsimp only <;> rw [head] <;> exact tail ..

theorem castleSucc_toMove (p : Pos) (ct : CastlingType) : (castleSucc h p ct).toMove = p.toMove.opp := by
  rw [castleSucc_eq]; simp [Pos.book]

theorem castleSucc_ep (p : Pos) (ct : CastlingType) : (castleSucc h p ct).ep = none := by
  rw [castleSucc_eq]; simp [Pos.book]

theorem castleSucc_promo (p : Pos) (ct : CastlingType) : (castleSucc h p ct).promo = none := by
  rw [castleSucc_eq]; rfl

theorem castleSucc_lastMove (p : Pos) (ct : CastlingType) :
    (castleSucc h p ct).lastMove = some (⟨homeRow (rightColor ct), kFrom⟩, ⟨homeRow (rightColor ct), kTo ct⟩) := by
  rw [castleSucc_eq]; rfl

theorem castleSucc_right (p : Pos) (ct ct' : CastlingType) :
    (castleSucc h p ct).right ct' = (p.right ct' && decide (rightColor ct' ≠ rightColor ct)) := by
  rw [castleSucc_eq, book_right, movePiece_right, movePiece_right, takeAway_right, takeAway_right, unsetEp_right,
    swapColor_right, Bool.and_assoc, ne_ksOf_qsOf]

end

theorem castleSucc_inv (h : Hasher) (p : Pos) (ct : CastlingType) (hinv : Inv h p) :
    Inv h (castleSucc h p ct) ∧ (castleSucc h p ct).toMove = p.toMove.opp ∧ (castleSucc h p ct).lastMove.isSome := by
  refine ⟨.of_good ?_ (fun t ht => by rw [castleSucc_ep] at ht; cases ht), castleSucc_toMove h p ct,
    by rw [castleSucc_lastMove]; rfl⟩
  rw [castleSucc_eq]
  exact (((hinv.good.swapColor.unsetEp.takeAway (ksOf (rightColor ct))).takeAway (qsOf (rightColor ct))).movePiece
    (kingPt p (rightColor ct)) (e := ⟨homeRow (rightColor ct), kTo ct⟩) (by cases ct <;> decide)).movePiece
    ⟨homeRow (rightColor ct), rFrom ct⟩ (e := ⟨homeRow (rightColor ct), rTo ct⟩) (by cases ct <;> decide)

theorem mem_generateCastlingMoves (h : Hasher) (p q : Pos) :
    q ∈ generateCastlingMoves h p ↔
      ∃ ct, p.toMove = rightColor ct ∧ canCastle p ct = true ∧ q = castleSucc h p ct := by
  unfold generateCastlingMoves
  simp only [List.mem_append, List.mem_ite_nil_right, List.mem_singleton]
  constructor
  · rintro (((⟨⟨hs, hc⟩, rfl⟩ | ⟨⟨hs, hc⟩, rfl⟩) | ⟨⟨hs, hc⟩, rfl⟩) | ⟨⟨hs, hc⟩, rfl⟩)
    · exact ⟨.wks, hs, hc, rfl⟩
    · exact ⟨.wqs, hs, hc, rfl⟩
    · exact ⟨.bks, hs, hc, rfl⟩
    · exact ⟨.bqs, hs, hc, rfl⟩
  · rintro ⟨ct, hs, hc, rfl⟩
    cases ct
    · exact Or.inl (Or.inl (Or.inl ⟨⟨hs, hc⟩, rfl⟩))
    · exact Or.inl (Or.inl (Or.inr ⟨⟨hs, hc⟩, rfl⟩))
    · exact Or.inl (Or.inr ⟨⟨hs, hc⟩, rfl⟩)
    · exact Or.inr ⟨⟨hs, hc⟩, rfl⟩

theorem mem_generateMoves (h : Hasher) (p : Pos) (mode : Mode) (s : Pos) :
    s ∈ generateMoves h p mode ↔
      (∃ pt piece, OnBoard pt ∧ p.board.get pt.row pt.col = .full piece ∧ piece.color = p.toMove ∧
        ((∃ mov ∈ getMoves piece pt.row pt.col p.board mode, s ∈ succsForTarget h piece p pt mov) ∨
          s ∈ epSuccs h piece p pt)) ∨
      (mode = .all ∧ s ∈ generateCastlingMoves h p) := by
  unfold generateMoves
  rw [List.mem_append, List.mem_flatMap]
  refine or_congr ⟨?_, ?_⟩ ⟨?_, ?_⟩
  · rintro ⟨pt, hpt, hin⟩
    split at hin
    · rename_i piece hsq
      split at hin
      · rename_i hcol
        exact ⟨pt, piece, (mem_boardCoords pt).mp hpt, hsq, hcol,
          (List.mem_append.mp hin).imp_left List.mem_flatMap.mp⟩
      · cases hin
    · cases hin
  · rintro ⟨pt, piece, hon, hsq, hcol, hin⟩
    refine ⟨pt, (mem_boardCoords pt).mpr hon, ?_⟩
    rw [hsq]
    simp only [hcol, if_true]
    exact List.mem_append.mpr (hin.imp_left List.mem_flatMap.mpr)
  · intro hc
    split at hc
    · rename_i hm; exact ⟨hm, hc⟩
    · cases hc
  · rintro ⟨hm, hc⟩
    rw [if_pos hm]; exact hc

theorem generateMoves_inv (h : Hasher) (p : Pos) (mode : Mode) (hinv : Inv h p) :
    ∀ s ∈ generateMoves h p mode, Inv h s ∧ s.toMove = p.toMove.opp ∧ s.lastMove.isSome := by
  intro s hs
  rcases (mem_generateMoves h p mode s).mp hs with ⟨pt, piece, hon, hsq, hcol, ⟨mov, hmov, hsm⟩ | hep⟩ | ⟨-, hc⟩
  · obtain ⟨a, b, c⟩ := succsForTarget_inv h piece p pt mov mode hinv hon hsq hcol hmov s hsm
    exact ⟨a, b, by rw [c]; rfl⟩
  · exact epSuccs_inv h piece p pt hinv hsq hcol s hep
  · obtain ⟨ct, -, -, rfl⟩ := (mem_generateCastlingMoves h p s).mp hc
    exact castleSucc_inv h p ct hinv

end Walleye
