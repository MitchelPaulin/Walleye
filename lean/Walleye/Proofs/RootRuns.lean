/-
  The shapes a normally finishing run of one iteration of the root loop (`rootLoop`) can have.  What
  is proved about the values of a completed iteration (exact value, alpha never falls) is an
  induction over these shapes; what only concerns the state it ends in is an instance of
  `rootLoop_rule` (`rootLoop_run_le`).
-/
import Walleye.Proofs.RootRule
namespace Walleye
open DrawTable

variable {P O : Type}

variable (g : Game P) (ord : Oracle P O)

theorem rootLoop_nil_run {fuel cd : Nat} {first : P} {alpha : Int} {best : Option P} {s s' : SS P O}
    {r : Option (Int × Option P)} (he : rootLoop g ord fuel cd first [] alpha best s = .ok r s') :
    r = some (alpha, best) ∧ s' = s := by
  unfold rootLoop at he
  exact pure_ok he

theorem rootLoop_cons_run {fuel cd : Nat} {first m : P} {ms : List P} {alpha : Int} {best : Option P}
    {s s' : SS P O} {r : Option (Int × Option P)}
    (he : rootLoop g ord fuel cd first (m :: ms) alpha best s = .ok r s') :
    (s.asked.expired = true ∧ r = none) ∨
    ∃ r0 s2 s3, s.asked.expired = false ∧
      alphaBeta g ord fuel m (cd - 1) 1 (-Gen.posInf) (-alpha) true s.asked = .ok r0 s2 ∧ Bk s2 s3 ∧
      ((¬ -r0 > alpha ∧ rootLoop g ord fuel cd first ms alpha best s3 = .ok r s') ∨
       (-r0 > alpha ∧ s3.asked.expired = true ∧ rootLoop g ord fuel cd first ms alpha best s3.asked = .ok r s') ∨
       (-r0 > alpha ∧ s3.asked.expired = false ∧
          rootLoop g ord fuel cd first ms (-r0) (some m) (accepted cd m (-r0) s3.asked) = .ok r s')) := by
  rw [rootLoop_cons, bind_of_ok (tick_def s)] at he
  cases hx : s.asked.expired with
  | true =>
    refine .inl ⟨rfl, ?_⟩
    rw [hx, if_pos rfl] at he
    by_cases hb : best.isNone = true
    · rw [if_pos hb] at he
      obtain ⟨_, s2, _, he⟩ := bind_ok he
      exact (pure_ok he).1
    · rw [if_neg hb] at he
      exact (pure_ok he).1
  | false =>
    rw [hx, if_neg Bool.false_ne_true] at he
    obtain ⟨r0, s2, h2, he⟩ := bind_ok he
    obtain ⟨_, s3, h3, he⟩ := bind_ok he
    refine .inr ⟨r0, s2, s3, rfl, h2, (insertCur_bk ..).ok h3, ?_⟩
    by_cases hev : - r0 > alpha
    · rw [if_pos hev, bind_of_ok (tick_def s3)] at he
      cases hx3 : s3.asked.expired with
      | true => rw [hx3] at he; exact .inr (.inl ⟨hev, rfl, he⟩)
      | false => rw [hx3] at he; exact .inr (.inr ⟨hev, rfl, he⟩)
    · rw [if_neg hev] at he
      exact .inl ⟨hev, he⟩

theorem rootLoop_run_le {fuel cd : Nat} {first : P} {AB : Int × Option P} {l : List P} {alpha : Int}
    {best : Option P} {s s' : SS P O} (he : rootLoop g ord fuel cd first l alpha best s = .ok (some AB) s') :
    Le s s' := by
  have h := rootLoop_rule g ord (fun _ s1 => Le s s1) fuel cd first l (fun _ _ h => h) (fun _ _ _ q h => h.trans q.1)
    (fun x h => h.trans x.quiet.1) alpha best s (Le.refl s)
  rw [he] at h
  exact h

theorem rootLoop_never_none {fuel cd : Nat} {first : P} {s' : SS P O} {r : Option (Int × Option P)} :
    ∀ {l : List P} {alpha : Int} {best : Option P} {s : SS P O}, s.expiry = none →
      rootLoop g ord fuel cd first l alpha best s = .ok r s' → ∃ AB, r = some AB := by
  intro l
  induction l with
  | nil => intro _ _ _ _ he; exact ⟨_, (rootLoop_nil_run g ord he).1⟩
  | cons m ms ih =>
    intro alpha best s hx he
    obtain ⟨h1, -⟩ | ⟨r0, s2, s3, -, h2, k3, hc⟩ := rootLoop_cons_run g ord he
    · cases (expired_of_none (s := s.asked) hx).symm.trans h1
    have hx3 : s3.expiry = none := by
      rw [k3.expiry, ((alphaBeta_inner g ord _ _ _ _ _ _ _).ok h2).1.1.2.1]; exact hx
    rcases hc with ⟨-, he⟩ | ⟨-, h4, -⟩ | ⟨-, -, he⟩
    · exact ih hx3 he
    · cases (expired_of_none (s := s3.asked) hx3).symm.trans h4
    · exact ih (s := accepted cd m (-r0) s3.asked) hx3 he

end Walleye
