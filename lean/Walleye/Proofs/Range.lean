/-
  The value-range invariant of the model's alpha-beta, for every depth (null-move pruning,
  re-searches, check extension, clock expiry included), proved once for a family of bands
  `[-L ply, U ply]` (`alphaBeta_val`) and read off at two of them:
  * `alphaBeta_range` (L = U = MATE): a call entered with a window that overlaps [-MATE, MATE]
    returns a value in [-MATE, MATE], or — only after some clock consultation has answered "out of
    time" — the abort sentinel ±POS_INF.  (C18, C07)
  * `alphaBeta_bands` (L = MATE - ply, U = MATE - ply - 1) and its part before expiry,
    `alphaBeta_fine`: as long as no clock consultation has answered "out of time", a node at `ply`
    entered with window (a, b) returns a value in [min b (-(MATE - ply)), max a (MATE - ply - 1)].
    (C18, C11)
-/
import Walleye.Proofs.SearchRuns
import Walleye.Proofs.Adv
namespace Walleye

variable {P O : Type}

/-- a score proper, in [-MATE, MATE] -/
def InR (v : Int) : Prop := -Gen.mateScore ≤ v ∧ v ≤ Gen.mateScore
/-- the abort sentinel ±POS_INF, returned once the clock has said "out of time" -/
def Ab (v : Int) : Prop := v = Gen.posInf ∨ v = -Gen.posInf
/-- with it, a ply at which `insertCur` succeeds is below `arrSize` -/
def Sz (s : SS P O) : Prop := s.cur.size = arrSize
/-- what a call may return (`alphaBeta_range`): a score proper, or the sentinel once the clock has expired -/
def V (v : Int) (s : SS P O) : Prop := InR v ∨ (Ab v ∧ s.expired = true)

theorem Sz_mono {s s' : SS P O} (h : Sz s) (hl : Le s s') : Sz s' := by
  unfold Sz at *; rw [hl.1]; exact h

theorem Sz_iterReset (o' : O) (s : SS P O) : Sz (iterReset o' s) := Array.size_replicate

/-- `J`: what a value may be once the clock has expired (the sentinel at least; the finer bands are
    lost after expiry) -/
def ValueIn (J : Int → Prop) (lo hi v : Int) (s : SS P O) : Prop :=
  (lo ≤ v ∧ v ≤ hi) ∨ (s.expired = true ∧ J v)

theorem ValueIn.mono {J : Int → Prop} {lo hi v : Int} {s s' : SS P O} (h : ValueIn J lo hi v s) (hl : Le s s') :
    ValueIn J lo hi v s' :=
  h.imp_right fun ⟨h1, h2⟩ => ⟨expired_mono hl h1, h2⟩

theorem ValueIn.neg {J : Int → Prop} {lo hi v : Int} {s : SS P O} (hJ : ∀ v, J v → J (-v)) (h : ValueIn J lo hi v s) :
    ValueIn J (-hi) (-lo) (-v) s :=
  h.imp (fun _ => by omega) fun ⟨h1, h2⟩ => ⟨h1, hJ v h2⟩

theorem ValueIn.weaken {J : Int → Prop} {lo hi lo' hi' v : Int} {s : SS P O} (h : ValueIn J lo hi v s) (h1 : lo' ≤ lo)
    (h2 : hi ≤ hi') : ValueIn J lo' hi' v s :=
  h.imp_left fun _ => by omega

variable (g : Game P) (ord : Oracle P O)

/-! ### quiescence: the window widened by the evaluation bound (it never consults the clock) -/

def QuiesceBand (E : Nat) (a b v : Int) : Prop := min b (-(E : Int)) ≤ v ∧ v ≤ max a E

theorem QuiesceBand.widen {E : Nat} {a b v lo hi : Int} (h : QuiesceBand E a b v) (h1 : (E : Int) ≤ lo)
    (h2 : (E : Int) ≤ hi) :
    min b (-lo) ≤ v ∧ v ≤ max a hi := by
  unfold QuiesceBand at h; omega

/-- `min b a ≤ v`: the loop is fail-hard, it returns beta on a cut-off and else the alpha it has reached,
    which only grows -/
theorem quiesceLoop_fine (E : Nat) (f : P → Int → Int → M (SS P O) Int)
    (hf : ∀ m a b s v s', f m a b s = .ok v s' → QuiesceBand E a b v) :
    ∀ (l : List P) (a b : Int) (s : SS P O) (v : Int) (s' : SS P O),
      quiesceLoop f l a b s = .ok v s' → min b a ≤ v ∧ v ≤ max a E := by
  intro l
  induction l with
  | nil =>
    intro a b s v s' he
    obtain ⟨rfl, _⟩ := pure_ok he
    omega
  | cons m ms ih =>
    intro a b s v s' he
    obtain ⟨r, s1, h1, hexit⟩ := quiesceLoop_cons_run he
    have hr := hf m (-b) (-a) s r s1 h1
    unfold QuiesceBand at hr
    rcases hexit with ⟨_, rfl, _⟩ | ⟨_, he⟩
    · omega
    · have := ih _ b s1 v s' he
      split at this <;> omega

theorem quiesce_fine (E : Nat) (hE : ∀ p, -(E : Int) ≤ g.eval p ∧ g.eval p ≤ E) :
    ∀ (fuel : Nat) (p : P) (a b : Int) (s : SS P O) (v : Int) (s' : SS P O),
      quiesce g ord fuel p a b s = .ok v s' → QuiesceBand E a b v := by
  intro fuel
  induction fuel with
  | zero => intro p a b s v s' he; cases he
  | succ n ih =>
    intro p a b s v s' he
    have := hE p
    unfold QuiesceBand
    rcases quiesce_succ_run he with ⟨_, rfl, _⟩ | ⟨_, o, e, s1, _, he⟩
    · omega
    · have := quiesceLoop_fine E (quiesce g ord n) (fun m a b => ih m a b) _ _ b s1 v s' he
      split at this <;> omega

def ChildAdv (f : ABFun P O) : Prop := ∀ m d ply a b n, Adv (f m d ply a b n)

/-- the bands `[-L ply, U ply]` are closed under what a node does with its children's values:
    negation one ply down, the null-move cut-off, the evaluation, the mate score and the clamp -/
structure Band (E : Nat) (J : Int → Prop) (L U : Nat → Int) : Prop where
  swap : ∀ ply, U (ply + 1) ≤ L ply ∧ L (ply + 1) ≤ U ply
  null : ∀ ply, L (ply + Gen.nullPlyJump) ≤ U ply
  mate : ∀ ply, Gen.mateScore - ply ≤ L ply ∧ Gen.mateScore - ply - 1 ≤ U ply
  eval : ∀ ply, ply ≤ arrSize + Gen.nullPlyJump → (E : Int) ≤ L ply ∧ (E : Int) ≤ U ply
  jneg : ∀ v, J v → J (-v)
  jinf : J (-Gen.posInf)
  /-- a null-move probe answered by junk may cut off with `beta`, a value of the clamped window -/
  prune : ∀ (ply : Nat) (b : Int), -(Gen.mateScore - ply) < b → b ≤ Gen.mateScore - ply → J b ∨ b ≤ U ply

/-- what is assumed about the recursive call: any window, any ply the per-ply arrays (plus one
    null-move jump) can reach.  `n = true → ply ≤ arrSize`: a call that may try the null move is the child
    of a move, made after `insertCur` succeeded at the parent's ply (below `arrSize` by `Sz`); only the
    null-move probe (`n = false`) is entered `nullPlyJump` plies up with no such write before it -/
def ChildV (J : Int → Prop) (L U : Nat → Int) (f : ABFun P O) : Prop :=
  ∀ m d ply lo hi n s v s', (n = true → ply ≤ arrSize) → ply ≤ arrSize + Gen.nullPlyJump → Sz s →
    f m d ply lo hi n s = .ok v s' → ValueIn J (min hi (-(L ply))) (max lo (U ply)) v s'

variable {g ord} {E : Nat} {J : Int → Prop} {L U : Nat → Int} {f : ABFun P O}

theorem ChildV.move (hB : Band E J L U) (hf : ChildV J L U f) {m : P} {d ply : Nat} {lo hi r : Int} {s s' : SS P O}
    (hply : ply < arrSize) (hsz : Sz s) (hlo : lo ≤ L ply) (hhi : -(U ply) ≤ hi)
    (he : f m d (ply + 1) lo hi true s = .ok r s') : ValueIn J (-(L ply)) (U ply) (-r) s' := by
  obtain ⟨w1, w2⟩ := hB.swap ply
  exact ((hf m d (ply + 1) lo hi true s r s' (fun _ => by omega) (by omega) hsz he).neg hB.jneg).weaken
    (by omega) (by omega)

theorem abLoop_val (hB : Band E J L U) (hadv : ChildAdv f) (hf : ChildV J L U f) {d1 ply : Nat} {beta : Int}
    (hb : beta ≤ Gen.mateScore - ply) :
    ∀ (ms : List P) (a best : Int) (s : SS P O) (v : Int) (s' : SS P O),
      -Gen.mateScore + ply ≤ a → a < beta → best < beta → Sz s → ValueIn J (-(L ply)) (U ply) best s →
      abLoop g f ms d1 ply a beta best s = .ok v s' → ValueIn J (-(L ply)) (U ply) v s' := by
  intro ms
  induction ms with
  | nil =>
    intro a best s v s' _ _ _ _ hbest he
    obtain ⟨rfl, rfl⟩ := pure_ok he
    exact hbest
  | cons m ms ih =>
    intro a best s v s' hla hab hbb hsz hbest he
    obtain ⟨s1, r0, s2, hply, k1, h2, hsearch⟩ := abLoop_cons_run he
    have hply : ply < arrSize := by unfold Sz at hsz; omega
    obtain ⟨m1, m2⟩ := hB.mate ply
    have hsz1 := Sz_mono hsz k1.le
    have l2 := (hadv m d1 (ply + 1) (-a - 1) (-a) true).run _ _ _ h2
    have v0 := hf.move hB hply hsz1 (by omega) (by omega) h2
    -- the move's score `sc` is in the band, and alpha moves only to a score
    obtain ⟨sc, a', s3, l3, hsc, ha1, ha2, he⟩ : ∃ sc a' s3, Le s s3 ∧ ValueIn J (-(L ply)) (U ply) sc s3 ∧
        a ≤ a' ∧ (a' = a ∨ a' = sc) ∧ abStep g f m ms d1 ply a' beta best sc s3 = .ok v s' := by
      rcases hsearch with ⟨_, he⟩ | ⟨_, r1, s3, h4, he⟩
      · exact ⟨_, _, _, k1.le.trans l2, v0, Int.le_refl _, Or.inl rfl, he⟩
      · have l3 := (hadv m d1 (ply + 1) (-beta) (-a) true).run _ _ _ h4
        exact ⟨_, _, _, (k1.le.trans l2).trans l3, hf.move hB hply (Sz_mono hsz1 l2) (by omega) (by omega) h4,
          by omega, by omega, he⟩
    have hsz3 := Sz_mono hsz l3
    rcases abStep_run he with ⟨_, _, rfl, k⟩ | ⟨_, hlt, s4, k, he⟩ | ⟨hle, he⟩
    · exact hsc.mono k.le
    · exact ih a' sc s4 v s' (by omega) (by omega) hlt (Sz_mono hsz3 k.le) (hsc.mono k.le) he
    · exact ih a' best s3 v s' (by omega) (by omega) hbb hsz3 (hbest.mono l3) he

theorem abRest_val (hB : Band E J L U) (hadv : ChildAdv f) (hf : ChildV J L U f) {p : P} {depth ply : Nat} {a b : Int}
    (k1 : -Gen.mateScore + ply ≤ a) (k2 : a < b) (k3 : b ≤ Gen.mateScore - ply)
    {s : SS P O} {v : Int} {s' : SS P O} (hsz : Sz s)
    (he : abRest g ord f p depth ply a b s = .ok v s') : ValueIn J (-(L ply)) (U ply) v s' := by
  obtain ⟨m1, m2⟩ := hB.mate ply
  rcases abRest_run he with ⟨_, rfl, rfl⟩ | ⟨_, pvm, ks, o, e, m0, rest, s1, hlt, k, _, he⟩
  · left; split <;> omega
  · obtain ⟨r0, s2, h1, hexit⟩ := abFirst_run he
    have hlt : ply < arrSize := by unfold Sz at hsz; omega
    have hsz1 := Sz_mono hsz k.le
    have hsz2 := Sz_mono hsz1 ((hadv m0 (depth - 1) (ply + 1) (-b) (-a) true).run _ _ _ h1)
    have v0 := hf.move hB hlt hsz1 (by omega) (by omega) h1
    rcases hexit with ⟨_, _, rfl, rfl⟩ | ⟨_, hlt', s3, k', he⟩ | ⟨hle, he⟩
    · exact v0
    · exact abLoop_val hB hadv hf k3 rest (-r0) (-r0) s3 v s' (by omega) hlt' hlt' (Sz_mono hsz2 k'.le)
        (v0.mono k'.le) he
    · exact abLoop_val hB hadv hf k3 rest a (-r0) s2 v s' k1 k2 (by omega) hsz2 v0 he

theorem abBody_val (hE : ∀ p, -(E : Int) ≤ g.eval p ∧ g.eval p ≤ E) (hB : Band E J L U) (hadv : ChildAdv f)
    (hf : ChildV J L U f) {p : P} {depth ply : Nat} {a b : Int} {n : Bool}
    (hply : ply ≤ arrSize + Gen.nullPlyJump) (hn : n = true → ply ≤ arrSize) {s : SS P O} {v : Int} {s' : SS P O}
    (hsz : Sz s) (he : abBody g ord f p depth ply a b n s = .ok v s') :
    ValueIn J (min b (-(L ply))) (max a (U ply)) v s' := by
  obtain ⟨e1, e2⟩ := hB.eval ply hply
  obtain ⟨m1, m2⟩ := hB.mate ply
  rcases abBody_run he with ⟨_, hq⟩ | ⟨_, ⟨_, rfl, rfl⟩ | ⟨hc, he⟩⟩
  · exact Or.inl ((quiesce_fine g ord E hE qFuel p a b s v s' hq).widen e1 e2)
  · -- the mate-distance clamp leaves an empty window
    have hM := mateScore_eq
    have hJ := nullPlyJump_eq
    have hA := arrSize_eq
    left; omega
  · -- a value in the band is a value for the window widened by the band
    suffices h : ValueIn J (-(L ply)) (U ply) v s' from h.weaken (Int.min_le_right _ _) (Int.le_max_right _ _)
    have rest : ∀ sX : SS P O, Sz sX →
        abRest g ord f p (if depth = 0 then 1 else depth) ply (max a (-Gen.mateScore + ply))
          (min b (Gen.mateScore - ply)) sX = .ok v s' → ValueIn J (-(L ply)) (U ply) v s' :=
      fun sX hX hr => abRest_val hB hadv hf (Int.le_max_right _ _) hc (Int.min_le_right _ _) hX hr
    rcases abNode_run he with hr | ⟨hn1, r, s1, h1, ⟨hp, rfl, rfl⟩ | hr⟩
    · exact rest s hsz hr
    · -- cut off by the null-move probe: beta is in the band because the probe's value is
      have hlo : -Gen.mateScore + ply ≤ max a (-Gen.mateScore + ply) := Int.le_max_right _ _
      have hhi : min b (Gen.mateScore - ply) ≤ Gen.mateScore - ply := Int.min_le_right _ _
      generalize max a (-Gen.mateScore + ply) = a' at hc hlo
      generalize min b (Gen.mateScore - ply) = b' at hc hhi h1 hp ⊢
      rcases hf (g.null p) _ (ply + Gen.nullPlyJump) _ _ false s r _ (fun h => by cases h)
          (by have := hn hn1.1; omega) hsz h1 with h | ⟨hx, _⟩
      · have := hB.null ply
        left; omega
      · rcases hB.prune ply b' (by omega) hhi with hj | hle
        · exact Or.inr ⟨hx, hj⟩
        · left; omega
    · exact rest s1 (Sz_mono hsz ((hadv _ _ _ _ _ _).run _ _ _ h1)) hr

variable (g ord)

theorem alphaBeta_val (hE : ∀ p, -(E : Int) ≤ g.eval p ∧ g.eval p ≤ E) (hB : Band E J L U) :
    ∀ fuel : Nat, ChildV J L U (alphaBeta g ord fuel) := by
  intro fuel
  induction fuel with
  | zero => intro m d ply lo hi n s v s' _ _ _ he; cases he
  | succ k ih =>
    intro m d ply lo hi n s v s' h3 h4 hsz he
    have hM := mateScore_eq
    have hJ := nullPlyJump_eq
    have hA := arrSize_eq
    obtain ⟨m1, m2⟩ := hB.mate ply
    obtain ⟨tk, s1, ht, ⟨rfl, rfl, rfl⟩ | ⟨rfl, s2, k2, ⟨_, rfl, rfl⟩ | ⟨_, s3, s4, ha, hb, hr⟩⟩⟩ := alphaBeta_succ_run he
    · exact Or.inr ⟨(tick_ok ht).2.symm, hB.jinf⟩
    · left; omega
    · have l := ((tick_inner.ok ht).1.1.trans k2.le).trans ((tableAdd_adv _).run _ _ _ ha)
      exact (abBody_val hE hB (fun _ _ _ _ _ _ => (alphaBeta_inner g ord k ..).adv) ih h4 h3 (Sz_mono hsz l) hb).mono
        ((tableRemove_adv _).run _ _ _ hr)

def ChildR (f : ABFun P O) : Prop :=
  ∀ m d ply1 lo hi n, lo ≤ Gen.mateScore → -Gen.mateScore ≤ hi →
    (n = true → ply1 ≤ arrSize) → ply1 ≤ arrSize + Gen.nullPlyJump →
    Triple Sz (f m d ply1 lo hi n) (fun v s' => V v s')

theorem alphaBeta_range (E : Nat) (hE : ∀ p, -(E : Int) ≤ g.eval p ∧ g.eval p ≤ E) (hEm : (E : Int) ≤ Gen.mateScore) :
    ∀ fuel : Nat, ChildR (alphaBeta g ord fuel) := by
  intro fuel m d ply lo hi n h1 h2 h3 h4
  refine ⟨fun s v s' hsz he => ?_⟩
  have hB : Band E Ab (fun _ => Gen.mateScore) (fun _ => Gen.mateScore) :=
    ⟨fun _ => ⟨Int.le_refl _, Int.le_refl _⟩, fun _ => Int.le_refl _, fun _ => ⟨by omega, by omega⟩,
      fun _ _ => ⟨hEm, hEm⟩, fun v h => by unfold Ab at *; omega, Or.inr rfl, fun _ _ _ _ => Or.inr (by omega)⟩
  rcases alphaBeta_val g ord hE hB fuel m d ply lo hi n s v s' h3 h4 hsz he with h | ⟨hx, hab⟩
  · dsimp only at h
    left; unfold InR; omega
  · exact Or.inr ⟨hab, hx⟩

/-- the clock has not expired -/
def NX (s : SS P O) : Prop := s.expired = false

theorem NX_of_le {s s' : SS P O} (hl : Le s s') (h : NX s') : NX s := by
  unfold NX at *
  cases hs : s.expired with
  | false => rfl
  | true => rw [expired_mono hl hs] at h; cases h

/-- where `alphaBeta_fine` puts the value `v` of a node at `ply` entered with the window `(a, b)` -/
def B (ply : Nat) (a b v : Int) : Prop :=
  min b (-(Gen.mateScore - ply)) ≤ v ∧ v ≤ max a (Gen.mateScore - ply - 1)

def ChildF (f : ABFun P O) : Prop :=
  ∀ m d ply1 lo hi n, (n = true → ply1 ≤ arrSize) → ply1 ≤ arrSize + Gen.nullPlyJump →
    Triple Sz (f m d ply1 lo hi n) (fun v s' => NX s' → B ply1 lo hi v)

theorem abRest_adv (f : ABFun P O) (hadv : ChildAdv f) (p : P) (depth ply : Nat) (a b : Int) :
    Adv (abRest g ord f p depth ply a b) :=
  .of_steps (abRest_walk g ord adv_walk f (fun p d ply a b n => (hadv p d ply a b n).steps) p depth ply a b)

/-- both ranges at once: the ply-exact band, or — only after expiry — the sentinel or some value of
    [-MATE, MATE] -/
theorem alphaBeta_bands (E : Nat) (hE : ∀ p, -(E : Int) ≤ g.eval p ∧ g.eval p ≤ E)
    (hEp : (E : Int) + arrSize + Gen.nullPlyJump + 1 ≤ Gen.mateScore) :
    ∀ fuel : Nat, ChildV (fun v => Ab v ∨ InR v) (fun ply => Gen.mateScore - ply)
      (fun ply => Gen.mateScore - ply - 1) (alphaBeta g ord fuel) := by
  have hJ := nullPlyJump_eq
  exact alphaBeta_val g ord hE
    ⟨fun _ => ⟨by omega, by omega⟩, fun _ => by omega, fun _ => ⟨by omega, by omega⟩,
      fun _ _ => ⟨by omega, by omega⟩, fun v h => by unfold Ab InR at *; omega, Or.inl (Or.inr rfl),
      fun _ _ _ _ => Or.inl (Or.inr ⟨by omega, by omega⟩)⟩

theorem alphaBeta_fine (E : Nat) (hE : ∀ p, -(E : Int) ≤ g.eval p ∧ g.eval p ≤ E)
    (hEp : (E : Int) + arrSize + Gen.nullPlyJump + 1 ≤ Gen.mateScore) :
    ∀ fuel : Nat, ChildF (alphaBeta g ord fuel) := by
  intro fuel m d ply lo hi n h3 h4
  refine ⟨fun s v s' hsz he hx => ?_⟩
  rcases alphaBeta_bands g ord E hE hEp fuel m d ply lo hi n s v s' h3 h4 hsz he with h | ⟨hx', _⟩
  · exact h
  · rw [hx] at hx'; cases hx'

end Walleye
