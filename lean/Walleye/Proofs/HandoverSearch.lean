/-
  The acts of the search thread of one `go`, read off the reports of its run (Model/Search): a `sent m`
  directly followed by `info i` is an accepted improvement (one critical section in engine.rs), any other
  `sent` is a plain send (the fall-back board).  Their info lines are exactly the info lines of the run
  (`Paired`), their boards are exactly the boards the run sent.
-/
import Walleye.Proofs.Handover
import Walleye.Proofs.Paired
namespace Walleye

open Handover

variable {P O : Type}

/-- the pending `sent` board (not yet known to be an improvement) and the remaining reports -/
def actsAux : Option P → List (Report P) → List (Act P Info)
  | none, [] => []
  | some m, [] => [.fallback m]
  | none, .sent m :: rest => actsAux (some m) rest
  | some m0, .sent m :: rest => .fallback m0 :: actsAux (some m) rest
  | some m, .info i :: rest => .accept m i :: actsAux none rest
  | none, .info _ :: rest => actsAux none rest

def actsOf (rs : Array (Report P)) : List (Act P Info) := actsAux none rs.toList

theorem infos_actsAux (o : Option P) (l : List (Report P)) :
    infos (actsAux o l) = (pairsAux o l).map (fun p => Handover.Line.info p.2) := by
  induction o, l using actsAux.induct <;> simp_all [actsAux, pairsAux, infos]

theorem boards_actsAux (o : Option P) (l : List (Report P)) :
    boards (actsAux o l) = o.toList ++ l.filterMap (fun r => match r with | .sent m => some m | .info _ => none) := by
  induction o, l using actsAux.induct <;> simp_all [actsAux, boards, Act.board]

theorem infos_actsOf {s : SS P O} (hp : Paired s) :
    infos (actsOf s.reports) = (infosOf s.reports).map Handover.Line.info := by
  rw [actsOf, infos_actsAux, ← hp, infosOfB, List.map_map]; rfl

/-- **what any prefix of the acts of a run can have put on standard output**: the first `k` info lines
    of the run, and only boards the run has sent -/
theorem shown_of_acts {s : SS P O} (hp : Paired s) {done rest : List (Act P Info)} (h : actsOf s.reports = done ++ rest) :
    (∃ shown, shown <+: infosOf s.reports ∧ infos done = shown.map Handover.Line.info) ∧
    ∀ b ∈ boards done, Report.sent b ∈ s.reports.toList := by
  constructor
  · apply List.prefix_map_iff.mp
    rw [← infos_actsOf hp, h, infos_append]
    exact List.prefix_append ..
  · intro b hb
    have : b ∈ boards (actsOf s.reports) := by rw [h, boards_append]; exact List.mem_append_left _ hb
    obtain ⟨r, hr, hrb⟩ := by simpa [actsOf, boards_actsAux] using this
    cases r with
    | sent m => cases hrb; exact Array.mem_toList_iff.mpr hr
    | info i => cases hrb

end Walleye
