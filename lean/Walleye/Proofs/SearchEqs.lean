/-
  The search functions in the form the proofs use: `abRest`, `abNode`, `abFirst`, `abStep`, `rootStep`
  are the pieces of `abBody` / `abLoop` / `rootLoop` that follow a join point of the `do` block (a proof
  that unfolds the join point meets them twice), named, with the equations `abBody_eq`, `abLoop_cons`,
  `rootLoop_cons` that fold them back; the clock as an equation (`tick_def`); one iteration of `iterate`
  from the state it starts in (`iterate_succ`).
-/
import Walleye.Proofs.Hoare
namespace Walleye

variable {P O : Type}

/-! the constants the arithmetic of the search proofs depends on, as numerals (`omega` does not
    unfold them): a regenerated constant shows here first -/

theorem mateScore_eq : Gen.mateScore = 100000 := rfl
theorem posInf_eq : Gen.posInf = 9999999 := rfl
theorem nullPlyJump_eq : Gen.nullPlyJump = 10 := rfl
theorem arrSize_eq : arrSize = 100 := rfl

theorem expired_iff {s : SS P O} : s.expired = true ↔ ∃ kk, s.expiry = some kk ∧ kk < s.queries := by
  unfold SS.expired
  cases s.expiry <;> simp

theorem expired_sticky {s s' : SS P O} (hx : s'.expiry = s.expiry) (hq : s.queries ≤ s'.queries)
    (he : s.expired = true) : s'.expired = true := by
  obtain ⟨k, hk, hlt⟩ := expired_iff.1 he
  exact expired_iff.2 ⟨k, hx.trans hk, Nat.lt_of_lt_of_le hlt hq⟩

theorem expired_of_none {s : SS P O} (h : s.expiry = none) : s.expired = false := by
  unfold SS.expired; rw [h]

def SS.asked (s : SS P O) : SS P O := { s with queries := s.queries + 1 }

theorem tick_def (s : SS P O) : tick s = .ok s.asked.expired s.asked := by
  unfold tick SS.expired SS.asked
  cases s.expiry with
  | none => rfl
  | some kk => simp only [Nat.lt_succ_iff]

theorem tick_ok {s s1 : SS P O} {b : Bool} (h : tick s = .ok b s1) : s1 = s.asked ∧ b = s1.expired := by
  rw [tick_def] at h
  cases h
  exact ⟨rfl, rfl⟩

/-- the state after `report r` -/
def SS.reported (s : SS P O) (r : Report P) : SS P O := { s with reports := s.reports.push r }

/-- the state after `report (.sent m); setPV; sendInfo cd e` -/
def accepted (cd : Nat) (m : P) (e : Int) (s : SS P O) : SS P O :=
  { s with pv := s.cur
           reports := (s.reports.push (.sent m)).push (.info ⟨pvPrefix s.cur, cd, s.nodes, e⟩) }

/-- an acceptance is two reports, the board and then its info line: an invariant that survives a
    `sent` and an `info` (lemmas `X.sent`, `X.info` about `s'.reports = s.reports.push _`) survives it -/
theorem accepted_pushes (cd : Nat) (m : P) (e : Int) (s : SS P O) :
    (accepted cd m e s).reports = (s.reported (.sent m)).reports.push (.info ⟨pvPrefix s.cur, cd, s.nodes, e⟩) :=
  rfl

theorem accepted_reports (cd : Nat) (m : P) (e : Int) (s : SS P O) :
    (accepted cd m e s).reports.toList =
      s.reports.toList ++ [.sent m, .info ⟨pvPrefix s.cur, cd, s.nodes, e⟩] := by
  simp [accepted]

def infosOf (rs : Array (Report P)) : List Info :=
  rs.toList.filterMap fun r => match r with | .info i => some i | .sent _ => none

def SS.infos (s : SS P O) : List Info := infosOf s.reports

theorem infosOf_push_sent (rs : Array (Report P)) (p : P) : infosOf (rs.push (.sent p)) = infosOf rs := by
  unfold infosOf; simp

theorem infosOf_push_info (rs : Array (Report P)) (i : Info) : infosOf (rs.push (.info i)) = infosOf rs ++ [i] := by
  unfold infosOf; simp

variable (g : Game P) (ord : Oracle P O)

/-- the part of `abBody` after the null-move probe -/
def abRest (f : ABFun P O) (p : P) (depth ply : Nat) (alpha beta : Int) : M (SS P O) Int := do
  let moves := g.gen p .all
  if moves.isEmpty then
    return (if g.inCheck p then -(Gen.mateScore - ply) else 0)
  let pvm ← getPV ply
  let ks ← getKillers ply
  let moves ← order ord 'A' (rankMoves g pvm ks moves)
  match moves with
  | [] => M.panic
  | m0 :: rest =>
    insertCur ply (g.lastMove m0)
    if g.oh m0 ≠ Gen.posInf then setPV
    let best := - (← f m0 (depth - 1) (ply + 1) (-beta) (-alpha) true)
    if best > alpha then
      if best ≥ beta then return best
      setPV
      abLoop g f rest (depth - 1) ply best beta best
    else
      abLoop g f rest (depth - 1) ply alpha beta best

/-- what `abLoop` does with the score of move `m` (`alpha` already updated) -/
def abStep (f : ABFun P O) (m : P) (ms : List P) (d1 ply : Nat) (alpha beta best score : Int) : M (SS P O) Int :=
  if score > best then
    if score ≥ beta then do
      if g.oh m = 0 then insertKiller ply (g.lastMove m)
      return score
    else do
      setPV
      abLoop g f ms d1 ply alpha beta score
  else abLoop g f ms d1 ply alpha beta best

/-- `abRest` ends in this very text, not in a call of `abFirst`; `abRest_walk` (Proofs/Frame) and
    `abRest_run` (Proofs/SearchRuns) use that the two agree by unfolding.  So an edit of the model's
    `abBody` from `let best := …` on is made three times: there, in `abRest` and here. -/
def abFirst (f : ABFun P O) (m0 : P) (rest : List P) (d1 ply : Nat) (alpha beta : Int) : M (SS P O) Int := do
  let best := - (← f m0 d1 (ply + 1) (-beta) (-alpha) true)
  if best > alpha then
    if best ≥ beta then return best
    setPV
    abLoop g f rest d1 ply best beta best
  else
    abLoop g f rest d1 ply alpha beta best

/-- `rfl`, because the right-hand side is the term the `do` elaborator makes of `abLoop`, with the
    pieces named: what follows a `let x ← if …` (or a `match`) becomes a join point, a local function
    that every branch calls at its end, not a continuation bound after the `if` — so the folded text
    calls `abStep` in each branch.  If an edit of the model breaks the `rfl`, fold along the new join
    points; where a branch does not reduce to the call (a `decide` in between, as in `abBody`), prove
    the equation by cases as `abBody_eq` does.  The same holds of `rootLoop_cons`. -/
theorem abLoop_cons (f : ABFun P O) (m : P) (ms : List P) (d1 ply : Nat) (a beta best : Int) :
    abLoop g f (m :: ms) d1 ply a beta best = (do
      insertCur ply (g.lastMove m)
      let r0 ← f m d1 (ply + 1) (-a - 1) (-a) true
      if -r0 > a ∧ -r0 < beta then do
        let r1 ← f m d1 (ply + 1) (-beta) (-a) true
        abStep g f m ms d1 ply (if -r1 > a then -r1 else a) beta best (-r1)
      else abStep g f m ms d1 ply a beta best (-r0)) := by
  rfl

/-- `abBody` after the mate-distance clamp: the null-move probe, then the moves -/
def abNode (f : ABFun P O) (p : P) (depth ply : Nat) (alpha beta : Int) (allowNull : Bool) : M (SS P O) Int :=
  if allowNull ∧ depth ≥ Gen.nullMinDepth ∧ ¬ g.inCheck p then do
    let r ← f (g.null p) (depth - Gen.nullReduction) (ply + Gen.nullPlyJump) (-beta) (-beta + 1) false
    if -r ≥ beta then pure beta else abRest g ord f p depth ply alpha beta
  else abRest g ord f p depth ply alpha beta

theorem abBody_eq (f : ABFun P O) (p : P) (depth ply : Nat) (a b : Int) (n : Bool) :
    abBody g ord f p depth ply a b n =
      if depth = 0 ∧ ¬ g.inCheck p then quiesce g ord qFuel p a b
      else if max a (-Gen.mateScore + ply) ≥ min b (Gen.mateScore - ply) then pure (max a (-Gen.mateScore + ply))
      else abNode g ord f p (if depth = 0 then 1 else depth) ply (max a (-Gen.mateScore + ply))
        (min b (Gen.mateScore - ply)) n := by
  unfold abBody abNode
  by_cases h1 : depth = 0 ∧ ¬ g.inCheck p = true
  · rw [if_pos h1, if_pos h1]
  · rw [if_neg h1, if_neg h1]
    dsimp only
    by_cases h2 : max a (-Gen.mateScore + ply) ≥ min b (Gen.mateScore - ply)
    · rw [if_pos h2, if_pos h2]
    · rw [if_neg h2, if_neg h2]
      by_cases h3 : n = true ∧ (if depth = 0 then 1 else depth) ≥ Gen.nullMinDepth ∧ ¬ g.inCheck p = true
      · rw [if_pos h3, if_pos h3]
        congr 1
        funext r
        by_cases h4 : -r ≥ min b (Gen.mateScore - ply)
        · rw [decide_eq_true h4, if_pos h4]; rfl
        · rw [decide_eq_false h4, if_neg h4]; rfl
      · rw [if_neg h3, if_neg h3]
        rfl

/-- what the root loop does with the value `e` of move `m`, once it is settled whether it is accepted -/
def rootStep (fuel cd : Nat) (first m : P) (ms : List P) (alpha : Int) (best : Option P) (e : Int) (accept : Bool) :
    M (SS P O) (Option (Int × Option P)) :=
  if accept then do
    M.modify (accepted cd m e)
    rootLoop g ord fuel cd first ms e (some m)
  else rootLoop g ord fuel cd first ms alpha best

theorem rootLoop_cons (fuel cd : Nat) (first m : P) (ms : List P) (alpha : Int) (best : Option P) :
    rootLoop g ord fuel cd first (m :: ms) alpha best = (do
      if (← tick) then
        if best.isNone then report (.sent first) >>= fun _ => pure none else pure none
      else
        let r ← alphaBeta g ord fuel m (cd - 1) 1 (-Gen.posInf) (-alpha) true
        insertCur 0 (g.lastMove m)
        if -r > alpha then do
          let t ← tick
          rootStep g ord fuel cd first m ms alpha best (-r) (!t)
        else rootStep g ord fuel cd first m ms alpha best (-r) false) := by
  rfl

def iterReset (o' : O) (s : SS P O) : SS P O :=
  { s with nodes := 0, cur := Array.replicate arrSize none, ord := o' }

/-- the state in which the root loop of iteration `c` starts: in the first iteration the fall-back
    board has been handed over -/
def iterStart (c : Nat) (first : P) (o' : O) (s : SS P O) : SS P O :=
  if c = 1 then (iterReset o' s).reported (.sent first) else iterReset o' s

theorem iterStart_table (c : Nat) (first : P) (o' : O) (s : SS P O) : (iterStart c first o' s).table = s.table := by
  unfold iterStart; split <;> rfl

def iterNext (fuel : Nat) (root : P) (n c : Nat) : Option (Int × Option P) → M (SS P O) Unit
  | none => pure ()
  | some (_, best) => iterate g ord fuel root n (c + 1) (markPV g best (g.gen root .all)) best

theorem iterate_succ (fuel : Nat) (root : P) (n c : Nat) (mv : List P) (best : Option P) (s : SS P O) :
    iterate g ord fuel root (n + 1) c mv best s =
      if c ≥ Gen.maxDepth then .ok () s
      else match (ord s.ord s.expired 'R' mv).1 with
        | [] => iterate g ord fuel root n (c + 1) (markPV g best (g.gen root .all)) best
            (iterReset (ord s.ord s.expired 'R' mv).2 s)
        | first :: rest =>
          (rootLoop g ord fuel c first (first :: rest) (-Gen.posInf) best >>= iterNext g ord fuel root n c)
            (iterStart c first (ord s.ord s.expired 'R' mv).2 s) := by
  conv => lhs; unfold iterate
  by_cases hcm : c ≥ Gen.maxDepth
  · rw [if_pos hcm, if_pos hcm]; rfl
  · rw [if_neg hcm, if_neg hcm]
    have hm : M.modify (fun s : SS P O => { s with nodes := 0, cur := Array.replicate arrSize none }) s =
        .ok () { s with nodes := 0, cur := Array.replicate arrSize none } := rfl
    have ho : order ord 'R' mv ({ s with nodes := 0, cur := Array.replicate arrSize none } : SS P O) =
        .ok (ord s.ord s.expired 'R' mv).1 (iterReset (ord s.ord s.expired 'R' mv).2 s) := rfl
    rw [bind_of_ok hm, bind_of_ok ho]
    cases (ord s.ord s.expired 'R' mv).1 with
    | nil => rfl
    | cons first rest =>
      have hfb : sendFallback c first (iterReset (ord s.ord s.expired 'R' mv).2 s) =
          .ok () (iterStart c first (ord s.ord s.expired 'R' mv).2 s) := by
        unfold sendFallback iterStart; split <;> rfl
      dsimp only
      rw [bind_of_ok hfb]
      rfl

end Walleye
