/-
  C01 / C13, "no move appears twice": the list of successors of either generation mode carries
  pairwise different moves (from, to, promotion piece).
  Part 1: the pseudo-legal target list of one piece has no repetition — it is a sub-list of the
  origin shifted by a fixed list of pairwise different offsets (ray steps, knight offsets, king
  neighbourhood, pawn squares), and a square on the board determines its offset.
-/
import Walleye.Proofs.Coords
import Walleye.Proofs.Key
namespace Walleye

theorem ite_sublist {α} (c : Prop) [Decidable c] (l : List α) : List.Sublist (if c then l else []) l := by
  split
  · exact List.Sublist.refl _
  · exact List.nil_sublist _

theorem flatMap_sublist {α β} (l : List α) (f g : α → List β) (hfg : ∀ x ∈ l, List.Sublist (f x) (g x)) :
    List.Sublist (l.flatMap f) (l.flatMap g) := by
  induction l with
  | nil => exact List.Sublist.refl _
  | cons a rest ih =>
    simp only [List.flatMap_cons]
    exact List.Sublist.append (hfg a (by simp)) (ih fun x hx => hfg x (by simp [hx]))

theorem filterMap_sublist_map {α β} (l : List α) (f : α → Option β) (g : α → β)
    (hfg : ∀ x y, f x = some y → y = g x) : List.Sublist (l.filterMap f) (l.map g) := by
  induction l with
  | nil => exact List.Sublist.refl _
  | cons a rest ih =>
    simp only [List.filterMap_cons, List.map_cons]
    cases hfa : f a with
    | none => exact List.Sublist.cons _ ih
    | some y => rw [hfg a y hfa]; exact List.Sublist.cons_cons _ ih

theorem nodup_flatMap_map {α β γ} (l : List α) (f : α → List β) (key : β → γ) (hl : l.Nodup)
    (h1 : ∀ a ∈ l, ((f a).map key).Nodup)
    (h2 : ∀ a ∈ l, ∀ a' ∈ l, ∀ b ∈ f a, ∀ b' ∈ f a', key b = key b' → a = a') :
    ((l.flatMap f).map key).Nodup := by
  unfold List.Nodup at *
  rw [List.pairwise_map, List.pairwise_flatMap]
  exact ⟨fun a ha => List.pairwise_map.mp (h1 a ha),
    hl.imp_of_mem fun ha ha' hne x hx y hy e => hne (h2 _ ha _ ha' x hx y hy e)⟩

theorem nodup_of_sublist_map {α β} {l' : List β} {l : List α} {f : α → β} (hs : List.Sublist l' (l.map f))
    (hl : l.Nodup) (hf : ∀ a b, f a ∈ l' → f a = f b → a = b) : l'.Nodup := by
  obtain ⟨l1, h1, rfl⟩ := List.sublist_map_iff.mp hs
  unfold List.Nodup
  rw [List.pairwise_map]
  exact (hl.sublist h1).imp_of_mem fun ha _ hne e => hne (hf _ _ (List.mem_map_of_mem ha) e)

def ptShift (row col : Nat) (o : Int × Int) : Point := ptI ((row : Int) + o.1) ((col : Int) + o.2)

/-- an on-board square determines its offset from the origin (no truncation at 0 took place) -/
theorem ptShift_inj (row col : Nat) (a b : Int × Int) (h : OnBoard (ptShift row col a))
    (e : ptShift row col a = ptShift row col b) : a = b := by
  unfold OnBoard ptShift ptI at h
  unfold ptShift ptI at e
  simp only [Point.mk.injEq] at h e
  apply Prod.ext <;> omega

def slideOffs (dirs : List (Int × Int)) : List (Int × Int) :=
  dirs.flatMap fun d => (List.range 9).map fun n : Nat => (d.1 + n * d.1, d.2 + n * d.2)

def kingOffs : List (Int × Int) :=
  (List.range 3).flatMap fun i : Nat => (List.range 3).map fun j : Nat => ((i : Int) - 1, (j : Int) - 1)

/-- the offsets of all squares `get_moves` ever looks at for this piece, in its order -/
def offs (piece : Piece) : List (Int × Int) :=
  match piece.kind with
  | .pawn =>
    (match piece.color with
     | .white => [(-1, -1), (-1, 1), (-1, 0), (-2, 0)]
     | .black => [(1, 1), (1, -1), (1, 0), (2, 0)])
  | .rook => slideOffs Gen.rookDirs
  | .bishop => slideOffs Gen.bishopDirs
  | .knight => Gen.knightCords
  | .king => kingOffs
  | .queen => slideOffs Gen.rookDirs ++ slideOffs Gen.bishopDirs

theorem steps_inj {d d' : Int × Int} (hd : UnitDir d) (hd' : UnitDir d') {j j' : Nat}
    (e : (d.1 + j * d.1, d.2 + j * d.2) = (d'.1 + j' * d'.1, d'.2 + j' * d'.2)) : d = d' ∧ j = j' := by
  obtain ⟨e1, e2⟩ := Prod.mk.inj e
  obtain ⟨s1, -, a1⟩ := sgn_steps d.1 hd.1 j
  obtain ⟨s2, -, a2⟩ := sgn_steps d.2 hd.2.1 j
  obtain ⟨s1', -, a1'⟩ := sgn_steps d'.1 hd'.1 j'
  obtain ⟨s2', -, a2'⟩ := sgn_steps d'.2 hd'.2.1 j'
  have h1 : d.1 = d'.1 := by rw [← s1, e1, s1']
  have h2 : d.2 = d'.2 := by rw [← s2, e2, s2']
  refine ⟨Prod.ext h1 h2, ?_⟩
  by_cases z : d.1 = 0
  · have z2 : d.2 ≠ 0 := fun z2 => hd.2.2 ⟨z, z2⟩
    have := a2 z2
    rw [e2, a2' (h2 ▸ z2)] at this
    omega
  · have := a1 z
    rw [e1, a1' (h1 ▸ z)] at this
    omega

theorem slideOffs_nodup : (slideOffs Gen.rookDirs ++ slideOffs Gen.bishopDirs).Nodup := by
  have hu : ∀ d ∈ Gen.rookDirs ++ Gen.bishopDirs, UnitDir d := fun d hd =>
    (List.mem_append.mp hd).elim (rookDirs_rays.1 d) (bishopDirs_rays.1 d)
  rw [show slideOffs Gen.rookDirs ++ slideOffs Gen.bishopDirs = slideOffs (Gen.rookDirs ++ Gen.bishopDirs) from
    List.flatMap_append.symm]
  exact nodup_grid _ (by decide) 9 _ fun d hd d' hd' j j' e => steps_inj (hu d hd) (hu d' hd') e

theorem offs_nodup (piece : Piece) : (offs piece).Nodup := by
  obtain ⟨c, k⟩ := piece
  cases k <;> simp only [offs]
  · cases c <;> decide
  · decide
  · exact slideOffs_nodup.sublist (List.sublist_append_right _ _)
  · exact slideOffs_nodup.sublist (List.sublist_append_left _ _)
  · exact slideOffs_nodup
  · decide +kernel

theorem slideOffs_ptShift (row col : Nat) (dirs : List (Int × Int)) :
    (slideOffs dirs).map (ptShift row col) = dirs.flatMap fun d => (List.range 9).map (rayPt ⟨row, col⟩ d) := by
  unfold slideOffs
  rw [List.map_flatMap]
  congr 1; funext d
  rw [List.map_map]
  congr 1; funext n
  simp only [Function.comp, ptShift, rayPt, Int.add_assoc]

theorem slideDir_sublist (piece : Piece) (row col : Nat) (b : Board) (mode : Mode) (d : Int × Int)
    (hr : RingOK b) (ht : OnBoard ⟨row, col⟩) (hd : UnitDir d) :
    List.Sublist (slideDir piece row col b mode d) ((List.range 9).map (rayPt ⟨row, col⟩ d)) := by
  obtain ⟨n, hn, -, -, e⟩ := slideDir_eq piece row col b mode d hr ht hd
  rw [e]
  refine List.Sublist.trans (List.Sublist.append (ite_sublist _ _) (ite_sublist _ _)) ?_
  rw [← List.map_singleton, ← List.map_append, ← List.range_succ]
  exact (List.range_sublist.mpr (by omega)).map _

theorem slides_sublist (piece : Piece) (row col : Nat) (b : Board) (mode : Mode) (dirs : List (Int × Int))
    (hr : RingOK b) (ht : OnBoard ⟨row, col⟩) (hd : ∀ d ∈ dirs, UnitDir d) :
    List.Sublist (dirs.flatMap (slideDir piece row col b mode)) ((slideOffs dirs).map (ptShift row col)) := by
  rw [slideOffs_ptShift]
  exact flatMap_sublist dirs _ _ fun d hdm => slideDir_sublist piece row col b mode d hr ht (hd d hdm)

/-- the pawn's offsets in signed index arithmetic are the model's (truncated) natural-number arithmetic -/
theorem toNat_small (a : Nat) :
    ((a : Int) + -1).toNat = a - 1 ∧ ((a : Int) + -2).toNat = a - 2 ∧ ((a : Int) + 1).toNat = a + 1 ∧
      ((a : Int) + 2).toNat = a + 2 ∧ ((a : Int) + 0).toNat = a := by
  omega

theorem getMoves_sublist (piece : Piece) (row col : Nat) (b : Board) (mode : Mode)
    (hr : RingOK b) (ht : OnBoard ⟨row, col⟩) :
    List.Sublist (getMoves piece row col b mode) ((offs piece).map (ptShift row col)) := by
  unfold getMoves offs
  cases hk : piece.kind <;> simp only
  · -- pawn: `row - 1` (truncated) is `(row + -1).toNat`
    have pawn : ∀ (a b c d : Point) (l r n : List Point), l.Sublist [a] → r.Sublist [b] → n.Sublist [d] →
        ∀ cond : Prop, [Decidable cond] → List.Sublist (l ++ r ++ if cond then c :: n else []) [a, b, c, d] := by
      intro a b c d l r n hl hr' hn cond _
      refine List.Sublist.append (List.Sublist.append (l₂ := [_]) (r₂ := [_]) hl hr') (r₂ := [_, _]) ?_
      split
      · exact List.Sublist.cons_cons _ hn
      · exact List.nil_sublist _
    unfold pawnMoves
    obtain ⟨r1, r2, r3, r4, -⟩ := toNat_small row
    obtain ⟨c1, -, c3, -, c5⟩ := toNat_small col
    cases hc : piece.color <;> simp only [List.map, ptShift, ptI, r1, r2, r3, r4, c1, c3, c5] <;>
      exact pawn _ _ _ _ _ _ _ (ite_sublist _ _) (ite_sublist _ _) (ite_sublist _ _) _
  · exact filterMap_sublist_map _ _ _ fun rc y hy => ((tgt_filter _ _ _ _ y).mp hy).1
  · exact slides_sublist piece row col b mode _ hr ht bishopDirs_rays.1
  · exact slides_sublist piece row col b mode _ hr ht rookDirs_rays.1
  · unfold queenMoves rookMoves bishopMoves
    rw [List.map_append]
    exact List.Sublist.append (slides_sublist piece row col b mode _ hr ht rookDirs_rays.1)
      (slides_sublist piece row col b mode _ hr ht bishopDirs_rays.1)
  · -- king: `row + i - 1` is `(row + (i - 1)).toNat`
    unfold kingMoves kingOffs
    rw [List.map_flatMap]
    apply flatMap_sublist
    intro i _
    rw [List.map_map]
    apply filterMap_sublist_map
    intro j y hy
    rw [((tgt_filter _ _ _ _ y).mp hy).1]
    simp only [Function.comp, ptShift, ptI, Point.mk.injEq]
    omega

theorem getMoves_nodup (piece : Piece) (row col : Nat) (b : Board) (mode : Mode)
    (hr : RingOK b) (ht : OnBoard ⟨row, col⟩) : (getMoves piece row col b mode).Nodup :=
  nodup_of_sublist_map (getMoves_sublist piece row col b mode hr ht) (offs_nodup piece)
    fun a b' ha e => ptShift_inj row col a b' (getMoves_onBoard piece row col b mode hr _ ha) e

end Walleye
