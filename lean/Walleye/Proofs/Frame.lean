/-
  The frame of the search model, for every game, clock expiry and ordering oracle: what a
  computation may do to the state.  Below the root (`Inner`): the clock only moves forward, the
  expiry index and the size of the current line stay, nothing is reported — whatever the outcome —
  and on a normal end every repetition count is back where it was.  At the root (`Root`): reports
  are appended, and the counts are restored on a normal end.
  The functions below the root are walked once, over the folded text of Proofs/SearchEqs, for any
  property of computations that composition preserves and the primitives have (`Walk`,
  `alphaBeta_walk`); `Inner` is one such property, the lockstep invariant `Lk` (`lk_walk`,
  Proofs/PrefixSearch) another.  `TablePres` (below), `Adv` (Proofs/Adv) and `Silent` (Proofs/Reports)
  are read off `Inner`.
-/
import Walleye.Proofs.Hoare
import Walleye.Proofs.Table
import Walleye.Proofs.SearchEqs
namespace Walleye
open DrawTable

variable {P O : Type} {α : Type}

/-! what a theorem may ask of the ordering oracle (`sort_unstable_by_key` in the engine); an oracle
    that permutes (`OrdPerm`) meets the two weaker demands -/

def OrdPerm (ord : Oracle P O) : Prop := ∀ o e c l, ((ord o e c l).1).Perm l

def OrdSub (ord : Oracle P O) : Prop := ∀ o e c l x, x ∈ (ord o e c l).1 → x ∈ l

def OrdNonempty (ord : Oracle P O) : Prop := ∀ o e c l, l ≠ [] → (ord o e c l).1 ≠ []

def Le (s s' : SS P O) : Prop :=
  s'.cur.size = s.cur.size ∧ s'.expiry = s.expiry ∧ s.queries ≤ s'.queries

theorem Le.refl (s : SS P O) : Le s s := ⟨rfl, rfl, Nat.le_refl _⟩
theorem Le.trans {a b c : SS P O} (h1 : Le a b) (h2 : Le b c) : Le a c :=
  ⟨h2.1.trans h1.1, h2.2.1.trans h1.2.1, Nat.le_trans h1.2.2 h2.2.2⟩

theorem expired_mono {s s' : SS P O} (h : Le s s') (he : s.expired = true) : s'.expired = true :=
  expired_sticky h.2.1 h.2.2 he

def Grew (s s' : SS P O) : Prop := s.reports.toList <+: s'.reports.toList

def Quiet (s s' : SS P O) : Prop := Le s s' ∧ s'.reports = s.reports

def SameTable (F : SS P O → SS P O → Prop) (s s' : SS P O) : Prop := F s s' ∧ TableEq s'.table s.table

theorem Quiet.grew {s s' : SS P O} (h : Quiet s s') : Grew s s' := by
  unfold Grew; rw [h.2]; exact List.prefix_refl _

theorem quiet_rel : StepRel (SameTable (Quiet (P := P) (O := O))) Quiet where
  refl s := ⟨⟨Le.refl s, rfl⟩, TableEq.refl _⟩
  trans h1 h2 := ⟨⟨h1.1.1.trans h2.1.1, h2.1.2.trans h1.1.2⟩, h2.2.trans h1.2⟩
  xrefl s := ⟨Le.refl s, rfl⟩
  absorb h1 h2 := ⟨h1.1.1.trans h2.1, h2.2.trans h1.1.2⟩

theorem grew_rel : StepRel (SameTable (Grew (P := P) (O := O))) Grew where
  refl _ := ⟨List.prefix_refl _, TableEq.refl _⟩
  trans h1 h2 := ⟨h1.1.trans h2.1, h2.2.trans h1.2⟩
  xrefl _ := List.prefix_refl _
  absorb h1 h2 := h1.1.trans h2

def outState {α : Type} : Res (SS P O) α → SS P O
  | .ok _ s => s
  | .panic s => s
  | .fuel s => s

theorem Res.st_eq_outState {α : Type} (r : Res (SS P O) α) : r.st = outState r := by cases r <;> rfl

theorem Steps.out {R X : SS P O → SS P O → Prop} {m : M (SS P O) α} (h : Steps R X m)
    (hr : ∀ s s', R s s' → X s s') (s : SS P O) : X s (outState (m s)) := by
  have q := h.run s
  cases hm : m s <;> rw [hm] at q
  · exact hr _ _ q
  · exact q
  · exact q

abbrev Inner (m : M (SS P O) α) : Prop := Steps (SameTable Quiet) Quiet m

abbrev Root (m : M (SS P O) α) : Prop := Steps (SameTable Grew) Grew m

theorem Inner.root {m : M (SS P O) α} (h : Inner m) : Root m :=
  h.mono (fun _ _ h => ⟨h.1.grew, h.2⟩) (fun _ _ h => h.grew)

theorem Root.grew {m : M (SS P O) α} (h : Root m) (s : SS P O) : Grew s (outState (m s)) :=
  h.out (fun _ _ h => h.1) s

/-- `s'` differs from `s` at most in the bookkeeping of the search: node count, killers, PV,
    contents of the current line, oracle state; nothing an observer of the search sees -/
structure Bk (s s' : SS P O) : Prop where
  table : s'.table = s.table
  expiry : s'.expiry = s.expiry
  queries : s'.queries = s.queries
  size : s'.cur.size = s.cur.size
  reports : s'.reports = s.reports

theorem Bk.refl (s : SS P O) : Bk s s := ⟨rfl, rfl, rfl, rfl, rfl⟩
theorem Bk.trans {a b c : SS P O} (h1 : Bk a b) (h2 : Bk b c) : Bk a c :=
  ⟨h2.1.trans h1.1, h2.2.trans h1.2, h2.3.trans h1.3, h2.4.trans h1.4, h2.5.trans h1.5⟩
theorem Bk.le {s s' : SS P O} (h : Bk s s') : Le s s' := ⟨h.size, h.expiry, Nat.le_of_eq h.queries.symm⟩
theorem Bk.quiet {s s' : SS P O} (h : Bk s s') : SameTable Quiet s s' :=
  ⟨⟨h.le, h.reports⟩, by rw [h.table]; exact TableEq.refl _⟩

theorem bk_rel : StepRel (Bk (P := P) (O := O)) Bk := ⟨Bk.refl, Bk.trans, Bk.refl, Bk.trans⟩

abbrev Books (m : M (SS P O) α) : Prop := Steps Bk Bk m

theorem Books.inner {m : M (SS P O) α} (h : Books m) : Inner m := h.mono (fun _ _ k => k.quiet) fun _ _ k => k.quiet.1

theorem nodeSearched_bk : Books (nodeSearched : M (SS P O) Unit) := Steps.modify fun _ => ⟨rfl, rfl, rfl, rfl, rfl⟩
theorem setPV_bk : Books (setPV : M (SS P O) Unit) := Steps.modify fun _ => ⟨rfl, rfl, rfl, rfl, rfl⟩
theorem order_bk (ord : Oracle P O) (site : Char) (l : List P) : Books (order ord site l) :=
  ⟨fun _ => ⟨rfl, rfl, rfl, rfl, rfl⟩⟩
theorem insertCur_bk (ply : Nat) (m : Option Mv) : Books (insertCur ply m : M (SS P O) Unit) := by
  refine ⟨fun s => ?_⟩; unfold insertCur; split
  · exact ⟨rfl, rfl, rfl, Array.size_setIfInBounds .., rfl⟩
  · exact Bk.refl s
theorem insertCur_run (ply : Nat) (m : Option Mv) (s : SS P O) :
    insertCur ply m s = .ok () { s with cur := s.cur.setIfInBounds ply m } ∨ insertCur ply m s = .panic s := by
  unfold insertCur; split
  · exact .inl rfl
  · exact .inr rfl
theorem getPV_bk (ply : Nat) : Books (getPV ply : M (SS P O) (Option Mv)) := by
  refine ⟨fun s => ?_⟩; unfold getPV; split <;> exact Bk.refl s
theorem getKillers_bk (ply : Nat) : Books (getKillers ply : M (SS P O) (Array (Option Mv))) := by
  refine ⟨fun s => ?_⟩; unfold getKillers; split <;> exact Bk.refl s
theorem insertKiller_bk (ply : Nat) (m : Option Mv) : Books (insertKiller ply m : M (SS P O) Unit) := by
  refine ⟨fun s => ?_⟩; unfold insertKiller; split
  · dsimp only; split
    · exact Bk.refl s
    · exact ⟨rfl, rfl, rfl, rfl, rfl⟩
  · exact Bk.refl s

theorem asked_quiet (s : SS P O) : Quiet s s.asked := ⟨⟨rfl, rfl, Nat.le_succ _⟩, rfl⟩

theorem tick_inner : Inner (tick : M (SS P O) Bool) :=
  ⟨fun s => by rw [tick_def]; exact ⟨asked_quiet s, TableEq.refl _⟩⟩

theorem tableAdd_ok {k : UInt64} {s s' : SS P O} {u : Unit} (h : tableAdd k s = .ok u s') :
    ∃ t, s.table.add k = some t ∧ s' = { s with table := t } := by
  unfold tableAdd at h
  cases hadd : s.table.add k with
  | none => rw [hadd] at h; cases h
  | some t => rw [hadd] at h; cases h; exact ⟨t, rfl, rfl⟩

theorem tableRemove_ok {k : UInt64} {s s' : SS P O} {u : Unit} (h : tableRemove k s = .ok u s') :
    ∃ t, s.table.remove k = some t ∧ s' = { s with table := t } := by
  unfold tableRemove at h
  cases hrem : s.table.remove k with
  | none => rw [hrem] at h; cases h
  | some t => rw [hrem] at h; cases h; exact ⟨t, rfl, rfl⟩

theorem Inner.bracket (k : UInt64) {body : M (SS P O) α} (hb : Inner body) :
    Inner (do tableAdd k; let r ← body; tableRemove k; return r) := by
  refine ⟨fun s => ?_⟩
  cases hadd : s.table.add k with
  | none =>
    have e : tableAdd k s = .panic s := by unfold tableAdd; rw [hadd]
    rw [bind_of_panic e]; exact quiet_rel.xrefl s
  | some t1 =>
    have e : tableAdd k s = .ok () { s with table := t1 } := by unfold tableAdd; rw [hadd]
    rw [bind_of_ok e]
    have q := hb.run { s with table := t1 }
    cases h2 : body { s with table := t1 } with
    | panic s2 => rw [h2] at q; rw [bind_of_panic h2]; exact q
    | fuel s2 => rw [h2] at q; rw [bind_of_fuel h2]; exact q
    | ok r s2 =>
      rw [h2] at q; rw [bind_of_ok h2]
      have hc1 := count_add hadd
      have hpos : 0 < count s2.table k := by rw [q.2 k, hc1 k, if_pos rfl]; exact Nat.succ_pos _
      obtain ⟨t3, hrem, hc3⟩ := count_remove_of_pos hpos
      have e3 : tableRemove k s2 = .ok () { s2 with table := t3 } := by unfold tableRemove; rw [hrem]
      rw [bind_of_ok e3]
      refine ⟨q.1, fun k' => ?_⟩
      show count t3 k' = count s.table k'
      rw [hc3 k', q.2 k', hc1 k']
      omega

theorem grew_push (s : SS P O) (r : Report P) : SameTable Grew s (s.reported r) :=
  ⟨by show _ <+: (s.reports.push r).toList; rw [Array.toList_push]; exact List.prefix_append .., TableEq.refl _⟩

theorem grew_accepted (cd : Nat) (m : P) (e : Int) (s : SS P O) : SameTable Grew s (accepted cd m e s) :=
  ⟨⟨_, (accepted_reports cd m e s).symm⟩, TableEq.refl _⟩

theorem accepted_le (cd : Nat) (m : P) (e : Int) (s : SS P O) : Le s (accepted cd m e s) :=
  ⟨rfl, rfl, Nat.le_refl _⟩

theorem report_root (r : Report P) : Root (report r : M (SS P O) Unit) := ⟨fun s => grew_push s r⟩

/-- a property of computations that the ways of composing them preserve -/
structure Walk0 (Φ : ∀ {α : Type}, M (SS P O) α → Prop) : Prop where
  pure : ∀ {α : Type} (a : α), Φ (Pure.pure a : M (SS P O) α)
  bind : ∀ {α β : Type} {m : M (SS P O) α} {f : α → M (SS P O) β}, Φ m → (∀ a, Φ (f a)) → Φ (m >>= f)
  ite : ∀ {α : Type} {c : Prop} [Decidable c] {m1 m2 : M (SS P O) α}, Φ m1 → Φ m2 → Φ (if c then m1 else m2)
  panic : ∀ {α : Type}, Φ (M.panic : M (SS P O) α)
  outOfFuel : ∀ {α : Type}, Φ (M.outOfFuel : M (SS P O) α)

/-- ... and that the primitives used below the root have: then every function below the root has it
    (`alphaBeta_walk`).  `getTable`: the state is only read for its table; `bracket`: the table
    entry added around the body of `alphaBeta` and removed again. -/
structure Walk (Φ : ∀ {α : Type}, M (SS P O) α → Prop) : Prop extends Walk0 Φ where
  tick : Φ (tick : M (SS P O) Bool)
  nodeSearched : Φ (nodeSearched : M (SS P O) Unit)
  setPV : Φ (setPV : M (SS P O) Unit)
  order : ∀ (ord : Oracle P O) site l, Φ (order ord site l)
  insertCur : ∀ ply m, Φ (insertCur ply m : M (SS P O) Unit)
  getPV : ∀ ply, Φ (getPV ply : M (SS P O) (Option Mv))
  getKillers : ∀ ply, Φ (getKillers ply : M (SS P O) (Array (Option Mv)))
  insertKiller : ∀ ply m, Φ (insertKiller ply m : M (SS P O) Unit)
  getTable : ∀ {β : Type} (f : SS P O → M (SS P O) β), (∀ s, Φ (f s)) →
    (∀ s s' : SS P O, s.table = s'.table → f s = f s') → Φ (M.get >>= f)
  bracket : ∀ (k : UInt64) (body : M (SS P O) Int), Φ body →
    Φ (do tableAdd k; let r ← body; tableRemove k; return r)

theorem Steps.walk0 {R X : SS P O → SS P O → Prop} (h : StepRel R X) : Walk0 (fun {α} => Steps (α := α) R X) :=
  ⟨Steps.pure h, Steps.bind h, Steps.ite, Steps.panic h, Steps.outOfFuel h⟩

theorem inner_walk : Walk (fun {α} => Inner (P := P) (O := O) (α := α)) :=
  { Steps.walk0 quiet_rel with
    tick := tick_inner, nodeSearched := nodeSearched_bk.inner, setPV := setPV_bk.inner
    order := fun o c l => (order_bk o c l).inner, insertCur := fun p m => (insertCur_bk p m).inner
    getPV := fun p => (getPV_bk p).inner, getKillers := fun p => (getKillers_bk p).inner
    insertKiller := fun p m => (insertKiller_bk p m).inner
    getTable := fun _ hf _ => Steps.bind quiet_rel (Steps.get quiet_rel) hf
    bracket := fun k _ hb => Inner.bracket k hb }

variable (g : Game P) (ord : Oracle P O) {Φ : ∀ {α : Type}, M (SS P O) α → Prop}

theorem quiesceLoop_walk (h : Walk0 Φ) (f : P → Int → Int → M (SS P O) Int) (hf : ∀ p a b, Φ (f p a b)) :
    ∀ (l : List P) (a b : Int), Φ (quiesceLoop f l a b) := by
  intro l
  induction l with
  | nil => intro a b; exact h.pure _
  | cons m ms ih => intro a b; exact h.bind (hf ..) fun _ => h.ite (h.pure _) (ih ..)

/-- quiescence uses two primitives only -/
theorem quiesce_walk (h : Walk0 Φ) (hn : Φ (nodeSearched : M (SS P O) Unit)) (ho : ∀ site l, Φ (order ord site l)) :
    ∀ (fuel : Nat) (p : P) (a b : Int), Φ (quiesce g ord fuel p a b) := by
  intro fuel
  induction fuel with
  | zero => intro p a b; exact h.outOfFuel
  | succ n ih =>
    intro p a b
    exact h.bind hn fun _ => h.ite (h.pure _) (h.bind (ho ..) fun _ => quiesceLoop_walk h _ ih ..)

theorem quiesce_bk (fuel : Nat) (p : P) (a b : Int) : Books (quiesce g ord fuel p a b) :=
  quiesce_walk g ord (Steps.walk0 bk_rel) nodeSearched_bk (order_bk ord) fuel p a b

theorem abStep_walk (h : Walk Φ) (f : ABFun P O) (m : P) (ms : List P) (d1 ply : Nat) (beta : Int)
    (hl : ∀ a best, Φ (abLoop g f ms d1 ply a beta best)) (a best sc : Int) :
    Φ (abStep g f m ms d1 ply a beta best sc) :=
  h.ite (h.ite (h.ite (h.bind (h.insertKiller ..) fun _ => h.pure _) (h.pure _)) (h.bind h.setPV fun _ => hl ..))
    (hl ..)

theorem abLoop_walk (h : Walk Φ) (f : ABFun P O) (hf : ∀ p d ply a b n, Φ (f p d ply a b n)) :
    ∀ (l : List P) (d1 ply : Nat) (a b best : Int), Φ (abLoop g f l d1 ply a b best) := by
  intro l
  induction l with
  | nil => intro d1 ply a b best; exact h.pure _
  | cons m ms ih =>
    intro d1 ply a b best
    have hs := abStep_walk g h f m ms d1 ply b fun _ _ => ih ..
    rw [abLoop_cons]
    exact h.bind (h.insertCur ..) fun _ => h.bind (hf ..) fun _ => h.ite (h.bind (hf ..) fun _ => hs ..) (hs ..)

theorem abFirst_walk (h : Walk Φ) (f : ABFun P O) (hf : ∀ p d ply a b n, Φ (f p d ply a b n))
    (m0 : P) (rest : List P) (d1 ply : Nat) (a b : Int) : Φ (abFirst g f m0 rest d1 ply a b) :=
  have hl := abLoop_walk g h f hf
  h.bind (hf ..) fun _ => h.ite (h.ite (h.pure _) (h.bind h.setPV fun _ => hl ..)) (hl ..)

theorem abRest_walk (h : Walk Φ) (f : ABFun P O) (hf : ∀ p d ply a b n, Φ (f p d ply a b n))
    (p : P) (depth ply : Nat) (a b : Int) : Φ (abRest g ord f p depth ply a b) := by
  refine h.ite (h.pure _) (h.bind (h.getPV ..) fun _ => h.bind (h.getKillers ..) fun _ => h.bind (h.order ..) fun moves => ?_)
  cases moves with
  | nil => exact h.panic
  | cons m0 rest =>
    have hfirst := abFirst_walk g h f hf m0 rest (depth - 1) ply a b
    exact h.bind (h.insertCur ..) fun _ => h.ite (h.bind h.setPV fun _ => hfirst) hfirst

theorem abBody_walk (h : Walk Φ) (f : ABFun P O) (hf : ∀ p d ply a b n, Φ (f p d ply a b n))
    (p : P) (depth ply : Nat) (a b : Int) (n : Bool) : Φ (abBody g ord f p depth ply a b n) := by
  have hr := abRest_walk g ord h f hf p
  rw [abBody_eq]
  exact h.ite (quiesce_walk g ord h.toWalk0 h.nodeSearched (h.order ord) ..) (h.ite (h.pure _)
    (h.ite (h.bind (hf ..) fun _ => h.ite (h.pure _) (hr ..)) (hr ..)))

theorem alphaBeta_walk (h : Walk Φ) : ∀ (fuel : Nat) (p : P) (depth ply : Nat) (a b : Int) (n : Bool),
    Φ (alphaBeta g ord fuel p depth ply a b n) := by
  intro fuel
  induction fuel with
  | zero => intro p d ply a b n; exact h.outOfFuel
  | succ k ih =>
    intro p d ply a b n
    unfold alphaBeta
    refine h.bind h.tick fun _ => h.ite (h.pure _) (h.bind h.nodeSearched fun _ => ?_)
    exact h.getTable _ (fun _ => h.ite (h.pure _) (h.bracket _ _ (abBody_walk g ord h _ ih p d ply a b n)))
      (fun s s' hss => by simp only [hss])

theorem alphaBeta_inner (fuel : Nat) (p : P) (depth ply : Nat) (a b : Int) (n : Bool) :
    Inner (alphaBeta g ord fuel p depth ply a b n) :=
  alphaBeta_walk g ord inner_walk fuel p depth ply a b n

theorem sendFallback_root (c : Nat) (first : P) : Root (sendFallback c first : M (SS P O) Unit) :=
  Steps.ite (report_root _) (Steps.pure grew_rel _)

theorem rootLoop_root (fuel curDepth : Nat) (first : P) :
    ∀ (l : List P) (alpha : Int) (best : Option P), Root (rootLoop g ord fuel curDepth first l alpha best) := by
  have h := Steps.walk0 (grew_rel (P := P) (O := O))
  intro l
  induction l with
  | nil => intro alpha best; exact h.pure _
  | cons m ms ih =>
    intro alpha best
    have hs : ∀ e acc, Root (rootStep g ord fuel curDepth first m ms alpha best e acc) := fun e _ =>
      h.ite (h.bind (Steps.modify (grew_accepted _ _ _)) fun _ => ih ..) (ih ..)
    rw [rootLoop_cons]
    exact h.bind tick_inner.root fun _ => h.ite (h.ite (h.bind (report_root _) fun _ => h.pure _) (h.pure _))
      (h.bind (alphaBeta_inner g ord ..).root fun _ => h.bind (insertCur_bk ..).inner.root fun _ =>
        h.ite (h.bind tick_inner.root fun _ => hs ..) (hs ..))

theorem iterate_root (fuel : Nat) (root : P) :
    ∀ (n curDepth : Nat) (moves : List P) (best : Option P), Root (iterate g ord fuel root n curDepth moves best) := by
  have h := Steps.walk0 (grew_rel (P := P) (O := O))
  intro n
  induction n with
  | zero => intro c mv b; exact h.pure _
  | succ k ih =>
    intro c mv b
    unfold iterate
    refine h.ite (h.pure _) (h.bind (Steps.modify fun s => grew_rel.refl s) fun _ =>
      h.bind (order_bk ..).inner.root fun moves => ?_)
    cases moves with
    | nil => exact ih ..
    | cons first rest =>
      refine h.bind (sendFallback_root ..) fun _ => h.bind (rootLoop_root g ord ..) fun r => ?_
      cases r with
      | none => exact h.pure _
      | some ab => exact ih ..

theorem getBestMove_root (fuel : Nat) (root : P) : Root (getBestMove g ord fuel root) :=
  iterate_root g ord fuel root _ _ _ _

/-! `TablePres`: the repetition table is restored by every normally finishing call (C07), as a Hoare
    triple; with a run `he : m s = .ok a s'` at hand, `((alphaBeta_inner …).ok he).2` is the same fact -/

/-- pre- and postcondition of `TablePres`: the repetition table counts every key as `t0` does -/
def TE (t0 : DrawTable) (s : SS P O) : Prop := TableEq s.table t0

structure TablePres {α : Type} (m : M (SS P O) α) : Prop where
  triple : ∀ t0, Triple (TE t0) m (fun _ s => TE t0 s)

theorem Steps.tablePres {α : Type} {F X : SS P O → SS P O → Prop} {m : M (SS P O) α}
    (h : Steps (SameTable F) X m) : TablePres m :=
  ⟨fun _ => ⟨fun _ _ _ hp he => (h.ok he).2.trans hp⟩⟩

theorem alphaBeta_pres : ∀ (fuel : Nat) (p : P) (depth ply : Nat) (a b : Int) (n : Bool),
    TablePres (alphaBeta g ord fuel p depth ply a b n) :=
  fun fuel p depth ply a b n => (alphaBeta_inner g ord fuel p depth ply a b n).tablePres

/-- `get_best_move`, when it returns, leaves the repetition record as it was given (same count for every key) -/
theorem getBestMove_pres (fuel : Nat) (root : P) : TablePres (getBestMove g ord fuel root) :=
  (getBestMove_root g ord fuel root).tablePres

end Walleye
