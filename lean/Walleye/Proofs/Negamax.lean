/-
  `fast_spec`: the plain fail-soft alpha-beta evaluator `Spec.fast` (the executable oracle of the
  C12 / C10 / C11 checks) returns, for every game, every move ordering that is a permutation, every
  window α < β, a value related to `Spec.negamax` by `Bnd`; in particular it IS the minimax value
  whenever that value lies inside the window.
-/
import Walleye.Proofs.MinimaxBase
namespace Walleye
open Spec

variable {P : Type}

theorem fastLoop_spec (f : P → Int → Int → Int) (val : P → Int)
    (hf : ∀ m lo hi, lo < hi → Bnd (val m) lo hi (f m lo hi))
    (beta a0 : Int) (ms : List P) (a best M : Int) (hI : ABInv a0 beta a best M) :
    Bnd (maxNeg val ms M) a0 beta (fastLoop f beta ms a best) := by
  induction ms generalizing a best M with
  | nil => exact hI.bnd
  | cons m ms ih =>
    obtain ⟨ha, h1, h2, hlt⟩ := hI
    simp only [fastLoop, maxNeg]
    have hb := (hf m (-beta) (-a) (Int.neg_lt_neg hlt)).neg
    split
    · have := hb.2.1 ‹_›
      have := maxNeg_ge val ms (max M (- val m))
      exact Bnd.of_ge (by omega) (Int.le_trans ‹_› (Int.le_max_right _ _)) (by omega)
    · have hs := Int.not_le.mp ‹_›
      obtain ⟨h3, h4⟩ := hb.lt hs
      exact ih _ _ _ ⟨by rw [← Int.max_assoc, ← ha, h4], int_max_le_max h1 h3,
        int_max_le_max h2 (Int.le_refl _), Int.max_lt.mpr ⟨hlt, hs⟩⟩

/-- stated about `match`es of the shape `negamax` and `fast` unfold to, so that `fast_spec` applies it
    as it stands -/
theorem fastNode_spec (f : P → Int → Int → Int) (val : P → Int)
    (hf : ∀ m lo hi, lo < hi → Bnd (val m) lo hi (f m lo hi)) (a b : Int) (hab : a < b) (x : Int)
    (l l' : List P) (hp : l'.Perm l) :
    Bnd (match (generalizing := false) l with
        | [] => x
        | m :: ms => maxNeg val ms (- val m)) a b
      (match (generalizing := false) l' with
        | [] => x
        | m :: ms =>
          if - f m (-b) (-a) ≥ b then - f m (-b) (-a) else fastLoop f b ms (max a (- f m (-b) (-a))) (- f m (-b) (-a))) := by
  cases l' with
  | nil => rw [← hp.nil_eq]; exact Bnd.refl _ _ _
  | cons m ms =>
    cases l with
    | nil => cases hp.eq_nil
    | cons m0 ms0 =>
      simp only
      rw [headMax_perm val m0 ms0 m ms hp.symm]
      have hb := (hf m (-b) (-a) (Int.neg_lt_neg hab)).neg
      split
      · exact Bnd.of_ge hab ‹_› (Int.le_trans (hb.2.1 ‹_›) (maxNeg_ge _ _ _))
      · have hs := Int.not_le.mp ‹_›
        obtain ⟨h1, h2⟩ := hb.lt hs
        exact fastLoop_spec f val hf b a _ _ _ _ ⟨h2, h1, Int.le_max_right _ _, Int.max_lt.mpr ⟨hab, hs⟩⟩

variable (g : Game P) (order : List P → List P)

theorem qfast_spec (hord : ∀ l, (order l).Perm l) :
    ∀ (fuel : Nat) (p : P) (a b : Int), a < b → Bnd (qval g fuel p) a b (qfast g order fuel p a b) := by
  intro fuel
  induction fuel with
  | zero => intro p a b _; exact Bnd.refl _ _ _
  | succ n ih =>
    intro p a b hab
    simp only [qval, qfast]
    split
    · exact Bnd.of_ge hab ‹_› (maxNeg_ge _ _ _)
    · rw [← maxNeg_perm (qval g n) _ _ (hord (g.gen p .caps))]
      exact fastLoop_spec _ _ ih b a _ _ _ _ ⟨rfl, Int.le_refl _, Int.le_max_right _ _, by omega⟩

theorem fast_spec (hord : ∀ l, (order l).Perm l) :
    ∀ (fuel depth ply : Nat) (t : DrawTable) (p : P) (a b : Int), a < b →
      Bnd (negamax g fuel depth ply t p) a b (fast g order fuel depth ply t p a b) := by
  intro fuel
  induction fuel with
  | zero => intro d ply t p a b _; exact Bnd.refl _ _ _
  | succ n ih =>
    intro d ply t p a b hab
    rw [negamax, fast]
    exact Bnd.ite (fun _ => Bnd.refl _ _ _) fun _ => Bnd.ite (fun _ => qfast_spec g order hord _ _ _ _ hab)
      fun _ => fastNode_spec _ _ (ih _ _ _) a b hab _ _ _ (hord _)

end Walleye
