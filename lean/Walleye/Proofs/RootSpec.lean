/-
  The root loop of `get_best_move` for one iteration, under a clock that never expires: every
  accepted improvement carries the exact minimax value of its move, the final alpha is the maximum
  over all root moves, and the move remembered attains it (`rootLoop_triple`; started at −∞ over a
  non-empty list: `rootLoop_best`, on which C11 rests).
-/
import Walleye.Proofs.AbSpec
import Walleye.Proofs.RootRuns
namespace Walleye
open Spec DrawTable

variable {P O : Type} (g : Game P) (ord : Oracle P O)

theorem rootLoop_triple (E : Nat) (hg : GameOK g E) (hord : OrdPerm ord) (fuel curDepth : Nat) (first : P)
    (t : DrawTable) (hcd : curDepth - 1 < 3) (hE : (E : Int) + 1 + fuel < Gen.mateScore) :
    ∀ (l : List P) (alpha : Int) (best : Option P), -Gen.posInf ≤ alpha → alpha < Gen.mateScore →
      Triple (St t) (rootLoop g ord fuel curDepth first l alpha best)
        (fun r s' => St t s' ∧ ∃ A B, r = some (A, B) ∧
          A = maxNeg (negamax g fuel (curDepth - 1) 1 t) l alpha ∧
          (alpha < A → ∃ m ∈ l, B = some m ∧ - negamax g fuel (curDepth - 1) 1 t m = A) ∧
          (A = alpha → B = best)) := by
  intro l
  induction l with
  | nil =>
    intro alpha best _ _
    refine ⟨fun s r s' hs he => ?_⟩
    obtain ⟨rfl, rfl⟩ := rootLoop_nil_run g ord he
    exact ⟨hs, alpha, best, rfl, rfl, fun h => by omega, fun _ => rfl⟩
  | cons m ms ih =>
    intro alpha best hlo hhi
    refine ⟨fun s r s' hst he => ?_⟩
    -- under `St` the clock never says "out of time"
    obtain ⟨h1, -⟩ | ⟨r0, s2, s3, -, h2, k3, hc⟩ := rootLoop_cons_run g ord he
    · cases (expired_of_none (s := s.asked) hst.1).symm.trans h1
    have hpm : (Gen.mateScore : Int) < Gen.posInf := by decide
    obtain ⟨⟨c1, c2, c3⟩, hst2⟩ := (ab_spec g ord E hg hord fuel m (curDepth - 1) 1 (-Gen.posInf) (-alpha) true t hcd
      (by omega) (by push_cast; omega)).run s.asked r0 s2 hst h2
    have hrange := negamax_range g E hg fuel (curDepth - 1) 1 t m (by push_cast; omega)
    have hst3 : St t s3 := hst2.bk k3
    have hmem : ∀ {A : Int} {B : Option P}, (∃ m' ∈ ms, B = some m' ∧ - negamax g fuel (curDepth - 1) 1 t m' = A) →
        ∃ m' ∈ m :: ms, B = some m' ∧ - negamax g fuel (curDepth - 1) 1 t m' = A :=
      fun ⟨m', hm', e⟩ => ⟨m', List.mem_cons_of_mem _ hm', e⟩
    simp only [maxNeg]
    rcases hc with ⟨hev, he⟩ | ⟨-, h4, -⟩ | ⟨hev, -, he⟩
    · -- a result at or above -alpha is a lower bound of the child's value
      have hub : - negamax g fuel (curDepth - 1) 1 t m ≤ alpha := by have := c2 (by omega); omega
      obtain ⟨hst', A, B, hr, hA, hB1, hB2⟩ := (ih alpha best hlo hhi).run s3 r s' hst3 he
      exact ⟨hst', A, B, hr, by rw [Int.max_eq_left hub]; exact hA, fun hlt => hmem (hB1 hlt), hB2⟩
    · cases (expired_of_none (s := s3.asked) hst3.1).symm.trans h4
    · -- the child value is never the sentinel, so a result below -alpha is exact
      have hexact : r0 = negamax g fuel (curDepth - 1) 1 t m := by
        by_cases hlow : r0 ≤ -Gen.posInf
        · have := c1 hlow; push_cast at hrange; omega
        · exact c3 (by omega) (by omega)
      subst hexact
      obtain ⟨hst', A, B, hr, hA, hB1, hB2⟩ := (ih _ (some m) (by omega) (by push_cast at hrange; omega)).run
        (accepted curDepth m _ s3.asked) r s' hst3 he
      have hge : _ ≤ A := hA ▸ maxNeg_ge (negamax g fuel (curDepth - 1) 1 t) ms _
      refine ⟨hst', A, B, hr, by rw [Int.max_eq_right (Int.le_of_lt hev)]; exact hA, fun _ => ?_, fun hAe => by omega⟩
      by_cases hA2 : - negamax g fuel (curDepth - 1) 1 t m < A
      · exact hmem (hB1 hA2)
      · have hAe := Int.le_antisymm (Int.not_lt.mp hA2) hge
        exact ⟨m, List.mem_cons_self, hB2 hAe, hAe.symm⟩

theorem rootLoop_best (E : Nat) (hg : GameOK g E) (hord : OrdPerm ord) (fuel curDepth : Nat) (first : P)
    (t : DrawTable) (hcd : curDepth - 1 < 3) (hE : (E : Int) + 1 + fuel < Gen.mateScore) (l : List P)
    (hl : l ≠ []) (best : Option P) :
    Triple (St t) (rootLoop g ord fuel curDepth first l (-Gen.posInf) best)
      (fun r _ => ∃ A b, r = some (A, some b) ∧ b ∈ l ∧ A = - negamax g fuel (curDepth - 1) 1 t b ∧
        ∀ m ∈ l, - negamax g fuel (curDepth - 1) 1 t m ≤ A) := by
  refine (rootLoop_triple g ord E hg hord fuel curDepth first t hcd hE l (-Gen.posInf) best (Int.le_refl _)
    (by decide)).weaken (fun _ h => h) ?_
  rintro r _ ⟨_, A, B, hr, hA, hB, _⟩
  have hmax := maxNeg_mem (negamax g fuel (curDepth - 1) 1 t) l (-Gen.posInf)
  rw [← hA] at hmax
  -- some move exists, and every value is above −∞: alpha was improved
  obtain ⟨x, hx⟩ := List.exists_mem_of_ne_nil l hl
  have := hmax x hx
  have := (negamax_range g E hg fuel (curDepth - 1) 1 t x hE).2
  have hP := posInf_eq
  have hM := mateScore_eq
  obtain ⟨b, hb, hBe, hbv⟩ := hB (by omega)
  exact ⟨A, b, by rw [hr, hBe], hb, hbv.symm, hmax⟩

end Walleye
