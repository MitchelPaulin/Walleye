/-
  Monotone facts about every normally finishing computation of the search model (`Adv`): the per-ply
  arrays keep their size, the clock's expiry index is never changed and the number of clock
  consultations never decreases — hence "out of time" is sticky through any computation
  (`expired_mono`, Proofs/Frame).
-/
import Walleye.Proofs.Frame
namespace Walleye

variable {P O : Type}

/-- the form in which the value walk of Proofs/Range assumes `Le` of the recursive call (`ChildAdv`);
    of a search function with a run `he` at hand, `((alphaBeta_inner …).ok he).1.1` is the same fact -/
structure Adv {α : Type} (m : M (SS P O) α) : Prop where
  run : ∀ s a s', m s = .ok a s' → Le s s'

theorem Adv.of_steps {α : Type} {m : M (SS P O) α} (h : Steps Le (fun _ _ => True) m) : Adv m :=
  ⟨fun _ _ _ he => h.ok he⟩

theorem Adv.steps {α : Type} {m : M (SS P O) α} (h : Adv m) : Steps Le (fun _ _ => True) m := by
  refine ⟨fun s => ?_⟩
  cases hm : m s with
  | ok a s' => exact h.run s a s' hm
  | panic s' => trivial
  | fuel s' => trivial

theorem Inner.adv {α : Type} {m : M (SS P O) α} (h : Inner m) : Adv m := ⟨fun _ _ _ he => (h.ok he).1.1⟩

theorem tableAdd_adv (k : UInt64) : Adv (tableAdd k : M (SS P O) Unit) :=
  ⟨fun s _ s' he => by obtain ⟨_, _, rfl⟩ := tableAdd_ok he; exact ⟨rfl, rfl, Nat.le_refl _⟩⟩
theorem tableRemove_adv (k : UInt64) : Adv (tableRemove k : M (SS P O) Unit) :=
  ⟨fun s _ s' he => by obtain ⟨_, _, rfl⟩ := tableRemove_ok he; exact ⟨rfl, rfl, Nat.le_refl _⟩⟩

theorem adv_rel : StepRel (Le (P := P) (O := O)) (fun _ _ => True) :=
  ⟨Le.refl, Le.trans, fun _ => trivial, fun _ _ => trivial⟩

/-- `Walk` for "the clock only advances on a normal end": the value walk of Proofs/Range gets `Adv` of
    `abRest` from `Adv` of the recursive call through it (`abRest_adv`) -/
theorem adv_walk : Walk (fun {α} => Steps (α := α) (Le (P := P) (O := O)) (fun _ _ => True)) :=
  have w : ∀ {α : Type} {m : M (SS P O) α}, Books m → Steps Le (fun _ _ => True) m := fun hm =>
    hm.mono (fun _ _ h => h.le) (fun _ _ _ => trivial)
  { Steps.walk0 adv_rel with
    tick := tick_inner.adv.steps, nodeSearched := w nodeSearched_bk, setPV := w setPV_bk
    order := fun o c l => w (order_bk o c l), insertCur := fun p m => w (insertCur_bk p m)
    getPV := fun p => w (getPV_bk p), getKillers := fun p => w (getKillers_bk p)
    insertKiller := fun p m => w (insertKiller_bk p m)
    getTable := fun _ hf _ => Steps.bind adv_rel (Steps.get adv_rel) hf
    bracket := fun k _ hb => Steps.bind adv_rel (tableAdd_adv k).steps fun _ => Steps.bind adv_rel hb fun r =>
      Steps.bind adv_rel (tableRemove_adv k).steps fun _ => Steps.pure adv_rel r }

end Walleye
