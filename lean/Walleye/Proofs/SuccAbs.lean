/-
  C02: the successors the generator builds are the specification's `apply` of the move they carry (`moveOf`).
  Ordinary moves and promotions: the stages `st1`–`st3` observed (cells, rights, en passant target), then
  `abs_eq_apply`; where the last stage fans out, in the specification's terms (`st4_eq_lastRank`).  The rights
  agree under `RightsOK` (a held right has its rook on the corner `cornerPt`), which legal positions satisfy.
-/
import Walleye.Proofs.Legal
import Walleye.Proofs.PseudoSpec
import Walleye.Proofs.Succ
namespace Walleye

/-- the move a successor carries in its descriptor fields (`last_move`, `pawn_promotion`).  The value for a position
    without descriptor is junk and never met: every generated successor has one (`generateMoves_inv`). -/
def moveOf (q : Pos) : Spec.Move :=
  match q.lastMove with
  | some (a, b) => ⟨specOf a, specOf b, q.promo.map (·.kind)⟩
  | none => ⟨⟨0, 0⟩, ⟨0, 0⟩, none⟩

theorem moveOf_of (q : Pos) (a b : Point) (hl : q.lastMove = some (a, b)) :
    moveOf q = ⟨specOf a, specOf b, q.promo.map (·.kind)⟩ := by
  unfold moveOf; rw [hl]

variable (h : Hasher)

theorem abs_right (p : Pos) :
    (abs p).wks = p.right .wks ∧ (abs p).wqs = p.right .wqs ∧ (abs p).bks = p.right .bks ∧ (abs p).bqs = p.right .bqs :=
  ⟨rfl, rfl, rfl, rfl⟩

theorem cornerSq_inB (ct : CastlingType) : InB (cornerSq ct) := by cases ct <;> decide

def cornerPt (ct : CastlingType) : Point := toPt (cornerSq ct)

theorem cornerRight_eq_some_iff (pt : Point) (ct : CastlingType) : cornerRight pt = some ct ↔ pt = cornerPt ct := by
  constructor
  · intro hc
    obtain ⟨r, c⟩ := pt
    unfold cornerRight at hc
    -- the `else if` chain: the arm that fires names the corner
    have arm : ∀ r' c' ct', r = r' ∧ c = c' → some ct' = some ct → cornerPt ct' = ⟨r', c'⟩ → (⟨r, c⟩ : Point) = cornerPt ct :=
      fun _ _ _ e hs hp => by rw [← Option.some.inj hs, hp, e.1, e.2]
    split at hc
    · exact arm _ _ _ ‹_› hc rfl
    · split at hc
      · exact arm _ _ _ ‹_› hc rfl
      · split at hc
        · exact arm _ _ _ ‹_› hc rfl
        · split at hc
          · exact arm _ _ _ ‹_› hc rfl
          · cases hc
  · rintro rfl; cases ct <;> rfl

theorem cornerRight_beq_some (pt : Point) (ct : CastlingType) : decide (pt = cornerPt ct) = (cornerRight pt == some ct) := by
  rw [Bool.beq_eq_decide_eq]; exact decide_eq_decide.mpr (cornerRight_eq_some_iff pt ct).symm

theorem cornerRight_eq_some_iff_specOf (pt : Point) (hpt : OnBoard pt) (ct : CastlingType) :
    cornerRight pt = some ct ↔ specOf pt = cornerSq ct :=
  (cornerRight_eq_some_iff pt ct).trans
    ⟨fun e => e ▸ specOf_toPt _ (cornerSq_inB ct), fun e => by rw [← toPt_specOf pt hpt, e]; rfl⟩

def RightsOK (p : Pos) : Prop :=
  ∀ ct, p.right ct = true → (abs p).at (cornerSq ct) = some ⟨rightColor ct, .rook⟩

theorem rightsOK_of_LP (p : Pos) (lp : LP (abs p)) : RightsOK p :=
  fun ct hct => (lp.right ct ((abs_right_ct p ct).trans hct)).2

theorem RightsOK.right_eq_false {p : Pos} (hR : RightsOK p) {ct : CastlingType} {pc : Piece}
    (hat : (abs p).at (cornerSq ct) = some pc) (hne : pc ≠ ⟨rightColor ct, .rook⟩) : p.right ct = false :=
  Bool.eq_false_iff.mpr fun hr => hne (Option.some.inj (hat.symm.trans (hR ct hr)))

theorem RightsOK.right_eq_false_of_get {p : Pos} (hR : RightsOK p) {ct : CastlingType} {pc : Piece}
    (hget : p.board.get (cornerPt ct).row (cornerPt ct).col = .full pc) (hne : pc ≠ ⟨rightColor ct, .rook⟩) :
    p.right ct = false :=
  hR.right_eq_false (at_of_get p _ (cornerSq_inB ct) pc hget) hne

theorem st123_right (p : Pos) (hR : RightsOK p) (o : Spec.Sq) (ho : InB o) (pc : Piece)
    (hsrc : (abs p).at o = some pc) (mov : Point) (hm : OnBoard mov) (pr : Option Kind) (ct : CastlingType) :
    (st3 h pc (toPt o) mov (st2 h pc (toPt o) mov (st1 h pc p (toPt o) mov))).right ct =
      (p.right ct && !(pc == ⟨rightColor ct, .king⟩) && !touchesSq ⟨o, specOf mov, pr⟩ (cornerSq ct)) := by
  have e1 : (pc == (⟨rightColor ct, .king⟩ : Piece)) = (pc.kind == .king && pc.color == rightColor ct) := by
    cases pc with | mk c k => cases c <;> cases k <;> cases ct <;> decide
  have corner : ∀ pt, OnBoard pt → (cornerRight pt == some ct) = (specOf pt == cornerSq ct) := fun pt hpt => by
    rw [Bool.eq_iff_iff, beq_iff_eq, beq_iff_eq]; exact cornerRight_eq_some_iff_specOf pt hpt ct
  rw [st3_right, st2_right, st1_right, e1, corner mov hm, corner _ (toPt_onBoard o ho), specOf_toPt o ho]
  show _ = (p.right ct && _ && !(o == cornerSq ct || specOf mov == cornerSq ct))
  -- the two sides differ only for a king that leaves the corner: the model keeps the right, the
  -- specification takes it; but then the right is not held
  cases hoc : o == cornerSq ct
  · cases pc.kind == .king <;> simp
  · by_cases hk : pc.kind = .king
    · rw [hR.right_eq_false (beq_iff_eq.mp hoc ▸ hsrc) fun e => by rw [e] at hk; cases hk]; simp
    · simp [hk]

theorem st1_cells (piece : Piece) (p : Pos) (sq mov : Point) (hsq : p.board.get sq.row sq.col = .full piece)
    (hs : OnBoard sq) (hm : OnBoard mov) :
    absCells (st1 h piece p sq mov).board =
      (((abs p).put (specOf sq) none).put (specOf mov) (some piece)).cells := by
  rw [st1_board, movePiece_board_full h p sq mov piece hsq]
  exact (moved_absCells (abs p) p.board rfl sq mov piece hs hm).symm

/-- the square a double step passes over, as the mailbox and as the specification name it -/
theorem specOf_front (c : Color) (o : Spec.Sq) (mov : Point) (hm : OnBoard mov) (hf : o.file = (specOf mov).file)
    (h2 : ((specOf mov).rank : Int) - o.rank = 2 * Spec.fwd c) :
    specOf (front c mov) = ⟨o.file, ((o.rank : Int) + Spec.fwd c).toNat⟩ := by
  unfold OnBoard at hm
  unfold specOf at hf h2
  unfold front specOf
  cases c <;> simp only [Spec.fwd, Spec.Sq.mk.injEq] at h2 ⊢ <;> exact ⟨hf.symm, by omega⟩

theorem ep_agree (piece : Piece) (p : Pos) (o : Spec.Sq) (ho : InB o) (mov : Point) (hm : OnBoard mov) (nb : Pos)
    (hrule : normalRule (abs p) o piece (specOf mov) = true) :
    (st3 h piece (toPt o) mov nb).ep.map specOf = epAfter piece.color piece ⟨o, specOf mov, none⟩ := by
  have hrow : ((toPt o).row : Int) - mov.row = ((specOf mov).rank : Int) - o.rank := by
    unfold InB at ho; unfold OnBoard at hm; unfold toPt specOf; simp only; omega
  rw [st3_ep, hrow]
  by_cases hc : piece.kind = .pawn ∧ (((specOf mov).rank : Int) - o.rank).natAbs = 2
  · rw [if_pos hc, (epAfter_eq_some_iff piece.color piece ⟨o, specOf mov, none⟩ _).mpr ⟨hc, rfl⟩]
    obtain ⟨c, k⟩ := piece
    obtain ⟨rfl, h2⟩ : k = .pawn ∧ _ := hc
    -- a pawn that moved two ranks stayed on its file
    rcases pawn_rule_facts _ _ _ _ hrule with h1 | ⟨h1, -, hf, -⟩
    · rw [h1] at h2; cases c <;> simp [Spec.fwd] at h2
    · exact congrArg some (specOf_front c o mov hm hf h1)
  · rw [if_neg hc]
    exact Eq.symm (epAfter_eq_none hc)

theorem not_castle {P : Spec.Position} {o t : Spec.Sq} {pc : Piece} {pr : Option Kind} (hsrc : P.at o = some pc)
    (hrule : normalRule P o pc t = true) : Spec.isCastle P ⟨o, t, pr⟩ = false := by
  refine Bool.eq_false_iff.mpr fun hc => ?_
  obtain ⟨hK, rfl, -, hf⟩ := (isCastle_iff _ _).mp hc
  obtain rfl : pc = ⟨P.side, .king⟩ := Option.some.inj (hsrc.symm.trans hK)
  -- a king moves one file at most
  rw [normalRule_of_ne_pawn _ _ ⟨_, .king⟩ _ nofun, attacksFrom_king] at hrule
  simp only [Spec.iabs, Bool.and_eq_true, beq_iff_eq] at hrule hf
  omega

theorem not_ep {P : Spec.Position} {o t : Spec.Sq} {pc : Piece} {pr : Option Kind} (hsrc : P.at o = some pc)
    (hrule : normalRule P o pc t = true) : Spec.isEnPassant P ⟨o, t, pr⟩ = false := by
  refine Bool.eq_false_iff.mpr fun he => ?_
  obtain ⟨hP, hf, hn⟩ := (isEnPassant_iff _ _).mp he
  obtain rfl : pc = ⟨P.side, .pawn⟩ := Option.some.inj (hsrc.symm.trans hP)
  -- a pawn leaves its file only onto an occupied square
  have h := ((normalRule_pawn ..).mp hrule).2
  rw [if_neg hf, hn] at h
  cases h.2

theorem apply_cells_of_rule (P : Spec.Position) (m : Spec.Move) (pc : Piece) (hsrc : P.at m.src = some pc)
    (hrule : normalRule P m.src pc m.dst = true) :
    (Spec.apply P m).cells = ((P.put m.src none).put m.dst (some (landed P.side pc m.promo))).cells :=
  apply_cells_normal P m pc hsrc (not_castle hsrc hrule) (not_ep hsrc hrule)

theorem normal_succ_abs (p : Pos) (hR : RightsOK p) (o : Spec.Sq) (ho : InB o) (pc : Piece)
    (hpc : p.board.get (toPt o).row (toPt o).col = .full pc) (hcol : pc.color = p.toMove) (mov : Point) (hm : OnBoard mov)
    (hrule : normalRule (abs p) o pc (specOf mov) = true) :
    abs (st3 h pc (toPt o) mov (st2 h pc (toPt o) mov (st1 h pc p (toPt o) mov))) =
      Spec.apply (abs p) ⟨o, specOf mov, none⟩ := by
  have hsrc : (abs p).at o = some pc := at_of_get p o ho _ hpc
  apply abs_eq_apply p _ ⟨o, specOf mov, none⟩ pc hsrc
  · rw [apply_cells_of_rule (abs p) ⟨o, specOf mov, none⟩ pc hsrc hrule, st3_board, st2_board,
      st1_cells h pc p (toPt o) mov hpc (toPt_onBoard o ho) hm, specOf_toPt o ho]
    rfl
  · rw [st3_toMove, st2_toMove, st1_toMove]
  · exact st123_right h p hR o ho pc hsrc mov hm none
  · rw [ep_agree h pc p o ho mov hm _ hrule, hcol]

theorem epAfter_none_of_last (P : Spec.Position) (o t : Spec.Sq) (c : Color) (pr : Option Kind)
    (hrule : normalRule P o ⟨c, .pawn⟩ t = true) (hlast : t.rank = Spec.lastRank c) :
    epAfter c ⟨c, .pawn⟩ ⟨o, t, pr⟩ = none := by
  refine epAfter_eq_none fun ⟨_, h⟩ => ?_
  rcases pawn_rule_facts _ _ _ _ hrule with h1 | ⟨h1, h2, -, -⟩ <;>
    cases c <;> simp only [Spec.fwd, Spec.pawnStartRank, Spec.lastRank] at * <;> omega

theorem promo_succ_abs (p : Pos) (hR : RightsOK p) (o : Spec.Sq) (ho : InB o) (c : Color)
    (hpc : p.board.get (toPt o).row (toPt o).col = .full ⟨c, .pawn⟩) (hcol : c = p.toMove) (mov : Point) (hm : OnBoard mov)
    (hrule : normalRule (abs p) o ⟨c, .pawn⟩ (specOf mov) = true) (hlast : (specOf mov).rank = Spec.lastRank c)
    (s : Pos)
    (hs : s ∈ promotePawn h (st3 h ⟨c, .pawn⟩ (toPt o) mov (st2 h ⟨c, .pawn⟩ (toPt o) mov (st1 h ⟨c, .pawn⟩ p (toPt o) mov)))
      c (toPt o) mov) :
    ∃ kind ∈ Gen.promotionOrder, s.promo = some ⟨c, kind⟩ ∧ s.lastMove = some (toPt o, mov) ∧
      abs s = Spec.apply (abs p) ⟨o, specOf mov, some kind⟩ := by
  obtain ⟨kind, hkind, rfl⟩ := (mem_promotePawn_iff h _ c (toPt o) mov s).mp hs
  refine ⟨kind, hkind, rfl, rfl, ?_⟩
  have hsrc : (abs p).at o = some ⟨c, .pawn⟩ := at_of_get p o ho _ hpc
  generalize hnb : st3 h ⟨c, .pawn⟩ (toPt o) mov (st2 h ⟨c, .pawn⟩ (toPt o) mov (st1 h ⟨c, .pawn⟩ p (toPt o) mov)) = nb
  apply abs_eq_apply p _ ⟨o, specOf mov, some kind⟩ _ hsrc
  · -- the pawn that has just arrived is overwritten by the promoted piece
    show absCells ((nb.unsetEp h).board.set mov.row mov.col (.full ⟨c, kind⟩)) = _
    rw [apply_cells_of_rule (abs p) ⟨o, specOf mov, some kind⟩ _ hsrc hrule, unsetEp_board, ← hnb,
      st3_board, st2_board, absCells_set _ mov _ hm, st1_cells h _ p (toPt o) mov hpc (toPt_onBoard o ho) hm, specOf_toPt o ho,
      put_cells _ _ _ (specOf_inB mov hm), put_cells _ _ _ (specOf_inB mov hm), Array.setIfInBounds_setIfInBounds]
    simp only [landed, squareToOpt, abs_side, hcol]
  · show (nb.unsetEp h).toMove = _
    rw [unsetEp_toMove, ← hnb, st3_toMove, st2_toMove, st1_toMove]
  · intro ct
    show (nb.unsetEp h).right ct = _
    rw [unsetEp_right, ← hnb]; exact st123_right h p hR o ho _ hsrc mov hm _ ct
  · show ((nb.unsetEp h).ep).map specOf = _
    rw [unsetEp_ep, ← hcol, epAfter_none_of_last (abs p) o (specOf mov) c (some kind) hrule hlast]
    rfl

theorem promo_row_iff (c : Color) (mov : Point) (hm : OnBoard mov) :
    (match c with | .white => mov.row = Gen.boardStart | .black => mov.row = Gen.boardEnd - 1) ↔
      (specOf mov).rank = Spec.lastRank c := by
  unfold OnBoard at hm
  unfold specOf Spec.lastRank
  cases c <;> simp only [Gen.boardStart, Gen.boardEnd] <;> omega

theorem st4_eq_lastRank (piece : Piece) (sq mov : Point) (nb : Pos) (hm : OnBoard mov) :
    st4 h piece sq mov nb =
      if piece.kind = .pawn ∧ (specOf mov).rank = Spec.lastRank piece.color then promotePawn h nb piece.color sq mov
      else [nb] := by
  have row : (mov.row = Gen.boardStart ∧ piece.color = .white ∨ mov.row = Gen.boardEnd - 1 ∧ piece.color = .black) ↔
      (specOf mov).rank = Spec.lastRank piece.color := by
    rw [← promo_row_iff piece.color mov hm]; cases piece.color <;> simp
  rw [st4_eq_rows]
  simp only [row]

end Walleye
