/-
  C01 soundness + C02 for the en passant block: what it holds (`mem_epSuccs`, in terms of `EpCtx`), that its
  king-safety test is the specification's (`filter_ep`), hence `epSuccs_sound`.
-/
import Walleye.Proofs.Sound
import Walleye.Proofs.SuccAbsEp
import Walleye.Proofs.CheckSpec
namespace Walleye

variable (h : Hasher)

/-- the pawn of colour `c` on `o` can capture en passant onto `mov`: what the lemmas about the en passant block
    share (`hep` and `geo` together are `pawn_moves_en_passant … = some mov`, `EpCtx.moves`) -/
structure EpCtx (p : Pos) (o : Spec.Sq) (c : Color) (mov : Point) : Prop where
  ho : InB o
  hm : OnBoard mov
  hpc : p.board.get (toPt o).row (toPt o).col = .full ⟨c, .pawn⟩
  hcol : c = p.toMove
  hep : p.ep = some mov
  geo : EpGeo c o mov

theorem EpCtx.moves {p : Pos} {o : Spec.Sq} {c : Color} {mov : Point} (x : EpCtx p o c mov) :
    pawnMovesEnPassant ⟨c, .pawn⟩ (toPt o).row (toPt o).col p = some mov :=
  (pawnMovesEnPassant_iff ⟨c, .pawn⟩ o p mov).mpr ⟨x.hep, x.geo⟩

theorem get_set3 (b : Board) (a1 a2 a3 : Point) (v1 v2 v3 : Square) (r k : Nat)
    (n1 : ¬ (a1.row = r ∧ a1.col = k)) (n2 : ¬ (a2.row = r ∧ a2.col = k)) (n3 : ¬ (a3.row = r ∧ a3.col = k)) :
    (((b.set a1.row a1.col v1).set a2.row a2.col v2).set a3.row a3.col v3).get r k = b.get r k := by
  rw [Board.get_set_ne _ _ _ _ _ _ n3, Board.get_set_ne _ _ _ _ _ _ n2, Board.get_set_ne _ _ _ _ _ _ n1]

theorem ep_pseudo (p : Pos) (lp : LP (abs p)) (o : Spec.Sq) (c : Color) (mov : Point) (x : EpCtx p o c mov) :
    Spec.pseudoLegal (abs p) ⟨o, specOf mov, none⟩ = true := by
  obtain ⟨ho, hm, hpc, hcol, hep, hgeo⟩ := x
  have hPep := abs_ep_some hep
  have hPs : (abs p).side = c := hcol.symm
  obtain ⟨g1, g2, g3, -, -⟩ := hgeo.spec hm
  have hlast : (specOf mov).rank ≠ Spec.lastRank c := by cases c <;> simp only [Spec.lastRank] <;> omega
  exact (pseudoLegal_iff (abs p) ⟨o, specOf mov, none⟩).mpr ⟨ho, specOf_inB mov hm, ⟨c, .pawn⟩,
    at_of_get p o ho _ hpc, hcol, .inr (.inl ⟨rfl, fun e => by rw [e] at g2; simp [Spec.iabs] at g2,
      (attacksFrom_pawn ..).mpr ⟨g1, g2⟩,
      Option.isSome_eq_false_iff.mpr (lp.ep _ hPep).2.2.1, hPep, by simp [promoOK, hPs, hlast]⟩)⟩

theorem ep_kingsOK (p : Pos) (hko : KingsOK p) (lp : LP (abs p)) (o : Spec.Sq) (c : Color) (mov : Point)
    (x : EpCtx p o c mov) : KingsOK (epBoard h ⟨c, .pawn⟩ p (toPt o) mov) := by
  obtain ⟨ho, hm, hpc, hcol, hep, hgeo⟩ := x
  have hPep := abs_ep_some hep
  obtain ⟨_, _, hempty, hcapP, _⟩ := lp.ep _ hPep
  rw [show (abs p).side = c from hcol.symm] at hcapP
  obtain ⟨g1, -, -, hcapOn, hcapSq⟩ := hgeo.spec hm
  have hcapK := at_specOf p _ hcapOn
  rw [hcapSq, show o.rank = (((specOf mov).rank : Int) + Spec.fwd c.opp).toNat by
    cases c <;> simp only [Spec.fwd, Color.opp] at g1 ⊢ <;> omega, hcapP] at hcapK
  refine hko.of_kingAt (epBoard_wk ..) (epBoard_bk ..) fun c' hc => ?_
  rw [epBoard_board h c p (toPt o) mov hpc]
  exact ((hc.set_other (by nofun) (hc.ne (by rw [hpc]; nofun))).set_other (by nofun)
    (hc.ne fun hx => by rw [at_specOf p mov hm, hx] at hempty; cases hempty)).set_other (by nofun)
    (hc.ne fun hx => by rw [hx] at hcapK; cases hcapK)

theorem mem_epSuccs (p : Pos) (wf : WFp p) (o : Spec.Sq) (ho : InB o) (pc : Piece)
    (hpc : p.board.get (toPt o).row (toPt o).col = .full pc) (hcol : pc.color = p.toMove) (q : Pos) :
    q ∈ epSuccs h pc p (toPt o) ↔
      ∃ c mov, pc = ⟨c, .pawn⟩ ∧ EpCtx p o c mov ∧
        isCheck (epBoard h ⟨c, .pawn⟩ p (toPt o) mov) p.toMove = false ∧ q = epBoard h ⟨c, .pawn⟩ p (toPt o) mov := by
  have ctx : ∀ c mov, pc = ⟨c, .pawn⟩ →
      pawnMovesEnPassant ⟨c, .pawn⟩ (toPt o).row (toPt o).col p = some mov → EpCtx p o c mov := by
    rintro c mov rfl hmv
    obtain ⟨hep, hgeo⟩ := (pawnMovesEnPassant_iff ⟨c, .pawn⟩ o p mov).mp hmv
    exact ⟨ho, wf.epb mov hep, hpc, hcol, hep, hgeo⟩
  rw [epSuccs_eq]
  constructor
  · intro hq
    split at hq
    · rename_i hcond
      have hpk : pc = ⟨pc.color, .pawn⟩ := by cases pc; simp only at hcond ⊢; rw [hcond.2]
      split at hq
      · cases hq
      · rename_i mov hmv
        rw [hpk] at hmv hq
        split at hq
        · rename_i hnchk
          exact ⟨pc.color, mov, hpk, ctx _ _ hpk hmv, by simpa using hnchk, List.mem_singleton.mp hq⟩
        · cases hq
    · cases hq
  · rintro ⟨c, mov, rfl, x, hchk, rfl⟩
    rw [if_pos ⟨by rw [x.hep]; rfl, rfl⟩, x.moves]
    simp only [hchk, Bool.not_false, if_true]
    exact List.mem_singleton.mpr rfl

theorem epBoard_wf (p : Pos) (wf : WFp p) (o : Spec.Sq) (c : Color) (mov : Point) (x : EpCtx p o c mov) :
    RingOK (epBoard h ⟨c, .pawn⟩ p (toPt o) mov).board ∧ InnerOK (epBoard h ⟨c, .pawn⟩ p (toPt o) mov).board ∧
      KingsOK (epBoard h ⟨c, .pawn⟩ p (toPt o) mov) := by
  have hk := ep_kingsOK h p wf.kings wf.lp o c mov x
  obtain ⟨ho, hm, hpc, _, _, hgeo⟩ := x
  obtain ⟨-, -, -, hcapOn, -⟩ := hgeo.spec hm
  rw [epBoard_board h c p (toPt o) mov hpc]
  exact ⟨ringOK_set _ (front c mov) _
      (ringOK_set _ mov _ (ringOK_set _ (toPt o) _ wf.ring (toPt_onBoard o ho)) hm) hcapOn,
    innerOK_set _ (front c mov) _
      (innerOK_set _ mov _ (innerOK_set _ (toPt o) _ wf.inner (by simp)) (by simp)) (by simp),
    hk⟩

theorem filter_ep (p : Pos) (wf : WFp p) (o : Spec.Sq) (c : Color) (mov : Point) (x : EpCtx p o c mov) :
    isCheck (epBoard h ⟨c, .pawn⟩ p (toPt o) mov) p.toMove =
      Spec.inCheck (Spec.apply (abs p) ⟨o, specOf mov, none⟩) (abs p).side := by
  obtain ⟨hr, hi, hk⟩ := epBoard_wf h p wf o c mov x
  rw [isCheck_eq_inCheck _ hr hi hk, (ep_succ_abs h p wf.lp o x.ho c x.hpc x.hcol mov x.hm x.moves).2]
  rfl

theorem legal_ep_iff_safe (p : Pos) (wf : WFp p) (o : Spec.Sq) (c : Color) (mov : Point) (x : EpCtx p o c mov) :
    Spec.legal (abs p) ⟨o, specOf mov, none⟩ = true ↔ isCheck (epBoard h ⟨c, .pawn⟩ p (toPt o) mov) p.toMove = false := by
  rw [legal_iff, filter_ep h p wf o c mov x]
  exact and_iff_right (ep_pseudo p wf.lp o c mov x)

theorem epSuccs_sound (p : Pos) (wf : WFp p) (o : Spec.Sq) (ho : InB o) (pc : Piece)
    (hpc : p.board.get (toPt o).row (toPt o).col = .full pc) (hcol : pc.color = p.toMove) :
    ∀ q ∈ epSuccs h pc p (toPt o),
      (moveOf q).src = o ∧ Spec.isEnPassant (abs p) (moveOf q) = true ∧
      Spec.legal (abs p) (moveOf q) = true ∧ abs q = Spec.apply (abs p) (moveOf q) := by
  intro q hq
  obtain ⟨c, mov, rfl, x, hchk, rfl⟩ := (mem_epSuccs h p wf o ho pc hpc hcol q).mp hq
  obtain ⟨hisep, habs⟩ := ep_succ_abs h p wf.lp o ho c hpc hcol mov x.hm x.moves
  rw [moveOf_epBoard h _ p o ho mov]
  exact ⟨rfl, hisep, (legal_ep_iff_safe h p wf o c mov x).mpr hchk, habs⟩

end Walleye
