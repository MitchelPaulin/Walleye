/-
  Every info line of a `get_best_move` run is preceded by the board it belongs to: the improvements
  as pairs (`infosOfB`: board handed over + its info line) project exactly onto the info lines
  (`infosOf`), at every point of every run and whatever its outcome.  So nothing is lost by looking at
  pairs, and `larger_allowance_only_extends_boards` covers every reported improvement.  (C07)
-/
import Walleye.Proofs.PrefixPairs
import Walleye.Proofs.RootRule
namespace Walleye

variable {P O : Type}

def Paired (s : SS P O) : Prop := (infosOfB s.reports).map Prod.snd = infosOf s.reports

theorem Paired.of_eq {s s' : SS P O} (h : s'.reports = s.reports) (hp : Paired s) : Paired s' := by
  unfold Paired at *; rw [h]; exact hp

theorem Paired.sent {s s' : SS P O} (q : P) (h : s'.reports = s.reports.push (.sent q)) (hp : Paired s) : Paired s' := by
  unfold Paired at *
  rw [h, infosOf_push_sentB, infosOf_push_sent]; exact hp

theorem Paired.pair {s s' : SS P O} (m : P) (i : Info)
    (h : s'.reports = (s.reports.push (.sent m)).push (.info i)) (hp : Paired s) : Paired s' := by
  unfold Paired at *
  rw [h]
  have e1 : infosOfB ((s.reports.push (.sent m)).push (.info i)) = infosOfB s.reports ++ [(m, i)] := by
    unfold infosOfB
    rw [Array.toList_push, Array.toList_push, List.append_assoc, pairsAux_append]
    simp only [pairsAux, List.cons_append, List.nil_append]
  rw [e1, infosOf_push_info, infosOf_push_sent, List.map_append, hp]
  rfl

variable (g : Game P) (ord : Oracle P O)

theorem getBestMove_paired (fuel : Nat) (root : P) (s : SS P O) (hs : s.reports = #[]) :
    Paired (outState (getBestMove g ord fuel root s)) :=
  getBestMove_rule g ord (fun _ => Paired) (fun _ _ => Paired) (fun _ => True) _ fuel root s
    (hQK := fun _ _ h => h) (hQI := fun _ _ _ h => h)
    (init := by unfold Paired; rw [hs]; rfl) (hgen := trivial) (hmark := fun _ => trivial) (hord := fun _ _ _ _ => trivial)
    (skip := fun _ _ _ h _ => h.of_eq rfl)
    (start := fun _ _ _ h => h.of_eq rfl)
    (fallback := fun _ first _ _ _ _ h => h.sent first rfl)
    (quiet := fun _ _ _ _ q h => h.of_eq q.2)
    (accept := fun _ _ _ x _ h => (h.of_eq x.quiet.2).pair x.m _ rfl)
    (next := fun _ _ _ _ h => h)

end Walleye
