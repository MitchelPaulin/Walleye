/-
  Groundwork for C12 (shallow search returns the exact minimax value of its own evaluation; SPEC:
  `Spec.negamax`, executable oracle `Spec.fast`, see Proofs/Negamax.lean for `fast_spec`): the window
  relation `Bnd` with the few facts a fail-soft loop needs and the loop's invariant `ABInv`;
  `Spec.maxNeg` as a least upper bound (`maxNeg_le_iff`), from which order independence of the minimax
  value (`maxNeg_perm`) and the other facts about it follow; and that the null-move branch is dead below
  remaining depth 3 (`null_dead_below_3`), which is why iterations 1–3 are "non-speculative".
-/
import Walleye.Spec.Negamax
namespace Walleye
open Spec

/-- what an alpha-beta result `r` may be, relative to the true value `v` and the window -/
def Bnd (v a b r : Int) : Prop := (r ≤ a → v ≤ r) ∧ (b ≤ r → r ≤ v) ∧ (a < r → r < b → r = v)

theorem Bnd.exact {v a b r : Int} (h : Bnd v a b r) (h1 : a < v) (h2 : v < b) : r = v := by
  unfold Bnd at h; omega

theorem Bnd.refl (v a b : Int) : Bnd v a b v := ⟨fun _ => Int.le_refl _, fun _ => Int.le_refl _, fun _ _ => rfl⟩

theorem Bnd.ite {c : Prop} [Decidable c] {v v' a b r r' : Int} (h : c → Bnd v a b r) (h' : ¬ c → Bnd v' a b r') :
    Bnd (if c then v else v') a b (if c then r else r') := by
  split
  · exact h ‹_›
  · exact h' ‹_›

theorem Bnd.of_ge {v a b r : Int} (hab : a < b) (h : b ≤ r) (hv : r ≤ v) : Bnd v a b r := by
  unfold Bnd; omega

theorem Bnd.neg {v a b r : Int} (h : Bnd v (-b) (-a) r) : Bnd (-v) a b (-r) := by
  unfold Bnd at *; omega

theorem Bnd.lt {v a b r : Int} (h : Bnd v a b r) (hr : r < b) : v ≤ r ∧ max a r = max a v := by
  unfold Bnd at h; omega

/-- a zero-window probe at alpha whose score falls outside `(a, b)` settles the move for `(a, b)` -/
theorem Bnd.of_probe {v a b r : Int} (h : Bnd v (-a - 1) (-a) r) (hab : a < b) (hout : ¬ (-r > a ∧ -r < b)) :
    Bnd (-v) a b (-r) := by
  unfold Bnd at *; omega

/-- mate-distance clamp: a result for the window clamped to a range `[lo, hi]` that holds the true
    value is a result for the window itself -/
theorem Bnd.unclamp {w a b lo hi r : Int} (hlo : lo ≤ w) (hhi : w ≤ hi) (h : Bnd w (max a lo) (min b hi) r) :
    Bnd w a b r := by
  unfold Bnd at *; omega

/-! the invariant of a fail-soft alpha-beta loop, shared by the specification's evaluator
    (`Spec.fastLoop`) and the engine-shaped loop of the model (`abLoop`) -/

/-- between two moves of a node entered with window `(a0, beta)`: `mx` is the true maximum of the
    moves seen so far, `best` the best score returned for them (an upper bound of `mx`), and the
    alpha in force is the entry alpha raised to the true maximum -/
structure ABInv (a0 beta a best mx : Int) : Prop where
  eq : a = max a0 mx
  ub : mx ≤ best
  le : best ≤ a
  lt : a < beta

namespace ABInv
variable {a0 beta a best mx x sc : Int}

theorem bnd (h : ABInv a0 beta a best mx) : Bnd mx a0 beta best := by
  obtain ⟨h1, h2, h3, h4⟩ := h
  exact ⟨fun _ => h2, fun _ => by omega, fun _ _ => by omega⟩

theorem cut (h : ABInv a0 beta a best mx) {w : Int} (hsc : sc ≤ x) (hcut : beta ≤ sc) (hw : x ≤ w) :
    Bnd w a0 beta sc := by
  obtain ⟨h1, h2, h3, h4⟩ := h
  exact ⟨fun _ => by omega, fun _ => by omega, fun _ _ => by omega⟩

theorem failLow (h : ABInv a0 beta a best mx) {best' : Int} (hub : x ≤ sc) (hs : sc ≤ a)
    (hb : best' = max best sc) : ABInv a0 beta a best' (max mx x) := by
  obtain ⟨h1, h2, h3, h4⟩ := h
  exact ⟨by omega, by omega, by omega, h4⟩

theorem raise (h : ABInv a0 beta a best mx) (hx : a < x) (hlt : x < beta) : ABInv a0 beta x x (max mx x) := by
  obtain ⟨h1, h2, h3, h4⟩ := h
  exact ⟨by omega, by omega, Int.le_refl _, hlt⟩

theorem first_exact (hx : a0 < x) (hlt : x < beta) : ABInv a0 beta x x x :=
  ⟨by omega, Int.le_refl _, Int.le_refl _, hlt⟩

theorem first_low (hab : a0 < beta) (hub : x ≤ sc) (hs : sc ≤ a0) : ABInv a0 beta a0 sc x :=
  ⟨by omega, hub, hs, hab⟩

end ABInv
variable {P : Type}

theorem int_max_le_max {a b c d : Int} (h1 : a ≤ c) (h2 : b ≤ d) : max a b ≤ max c d := by omega

theorem int_eq_of_forall_ge_iff {a b : Int} (h : ∀ x, a ≤ x ↔ b ≤ x) : a = b :=
  Int.le_antisymm ((h b).mpr (Int.le_refl b)) ((h a).mp (Int.le_refl a))

/-- `maxNeg f l acc` is the least upper bound of `acc` and the `- f m`; every fact about it that does
    not need the maximum to be attained (`maxNeg_attained`) follows from this without induction -/
theorem maxNeg_le_iff (f : P → Int) (l : List P) (acc x : Int) :
    maxNeg f l acc ≤ x ↔ acc ≤ x ∧ ∀ m ∈ l, - f m ≤ x := by
  induction l generalizing acc with
  | nil => simp [maxNeg]
  | cons m ms ih => simp only [maxNeg, ih, Int.max_le, List.forall_mem_cons, and_assoc]

theorem maxNeg_ge (f : P → Int) (l : List P) (acc : Int) : acc ≤ maxNeg f l acc :=
  ((maxNeg_le_iff f l acc _).mp (Int.le_refl _)).1

theorem maxNeg_mem (f : P → Int) (l : List P) (acc : Int) (m : P) (hm : m ∈ l) : - f m ≤ maxNeg f l acc :=
  ((maxNeg_le_iff f l acc _).mp (Int.le_refl _)).2 m hm

theorem maxNeg_attained (f : P → Int) (l : List P) (acc : Int) :
    maxNeg f l acc = acc ∨ ∃ x ∈ l, maxNeg f l acc = - f x := by
  induction l generalizing acc with
  | nil => exact .inl rfl
  | cons m ms ih =>
    simp only [maxNeg, List.mem_cons, or_and_right, exists_or, exists_eq_left]
    rcases ih (max acc (- f m)) with h | h
    · rw [h]; omega
    · exact .inr (.inr h)

theorem maxNeg_congr_mem (f : P → Int) {l l' : List P} (h : ∀ m, m ∈ l ↔ m ∈ l') (acc : Int) :
    maxNeg f l acc = maxNeg f l' acc :=
  int_eq_of_forall_ge_iff fun x => by simp only [maxNeg_le_iff, h]

theorem maxNeg_perm {P : Type} (f : P → Int) (l l' : List P) (h : l.Perm l') (acc : Int) :
    maxNeg f l acc = maxNeg f l' acc :=
  maxNeg_congr_mem f (fun _ => h.mem_iff) acc

theorem maxNeg_max_acc (f : P → Int) (l : List P) (a x : Int) :
    maxNeg f l (max a x) = max a (maxNeg f l x) :=
  int_eq_of_forall_ge_iff fun y => by simp only [maxNeg_le_iff, Int.max_le, and_assoc]

/-! the value of a node with moves `m :: ms` is `maxNeg f ms (- f m)`: the greatest `- f y`, `y ∈ m :: ms` -/

theorem headMax_le_iff (f : P → Int) (m : P) (ms : List P) (x : Int) :
    maxNeg f ms (- f m) ≤ x ↔ ∀ y ∈ m :: ms, - f y ≤ x := by
  rw [maxNeg_le_iff, List.forall_mem_cons]

theorem headMax_attained (f : P → Int) (m : P) (ms : List P) :
    ∃ y ∈ m :: ms, maxNeg f ms (- f m) = - f y := by
  rcases maxNeg_attained f ms (- f m) with h | ⟨y, hy, h⟩
  · exact ⟨m, List.mem_cons_self, h⟩
  · exact ⟨y, List.mem_cons_of_mem m hy, h⟩

theorem headMax_perm (f : P → Int) (m : P) (ms : List P) (m' : P) (ms' : List P)
    (h : (m :: ms).Perm (m' :: ms')) : maxNeg f ms (- f m) = maxNeg f ms' (- f m') :=
  int_eq_of_forall_ge_iff fun x => by simp only [headMax_le_iff, h.mem_iff]

/-- the null-move test of `alpha_beta_search` can only fire with remaining depth ≥ 3 -/
theorem null_dead_below_3 (allowNull : Bool) (depth : Nat) (inCheck : Bool) (hd : depth < 3) :
    ¬ (allowNull = true ∧ depth ≥ Gen.nullMinDepth ∧ ¬ inCheck = true) := by
  simp only [Gen.nullMinDepth]; omega

end Walleye
