/-
  Well-formedness is preserved by the generator, so that C01 / C02 / C13 hold along chains of any length.  On the
  specification, a legal move from a legal position leads to a legal position provided the result has one king of
  each colour (`lp_apply`: the king counts are hypotheses); every successor has no inner sentinel and right king
  caches (`generateMoves_wf_model`), which gives the counts, and with `Inv` the closure itself: `generateMoves_wf`.
  The chain invariant's clause about the en passant target follows from legality (`epWF_of_lp`).
-/
import Walleye.Proofs.GenSound
namespace Walleye

section
variable (P : Spec.Position) (lp : LP P) (m : Spec.Move) (pc : Piece) (hsrc : P.at m.src = some pc)
include lp hsrc

theorem lp_rights (hnk : ∀ c, P.at m.dst ≠ some ⟨c, .king⟩)
    (hcap : Spec.isEnPassant P m = true → m.src.rank ≠ 0 ∧ m.src.rank ≠ 7) (ct : CastlingType)
    (hr : (Spec.apply P m).right ct = true) :
    (Spec.apply P m).at ⟨4, Spec.homeRank (rightColor ct)⟩ = some ⟨rightColor ct, .king⟩ ∧
    (Spec.apply P m).at (cornerSq ct) = some ⟨rightColor ct, .rook⟩ := by
  rw [apply_right P m pc hsrc] at hr
  simp only [Bool.and_eq_true, Bool.not_eq_true', beq_eq_false_iff_ne, ne_eq, touchesSq, Bool.or_eq_false_iff] at hr
  obtain ⟨⟨hr, hpk⟩, hts, htd⟩ := hr
  obtain ⟨pK, pR⟩ := lp.right ct hr
  -- both squares lie on the home rank of the right's colour; the victim of an en passant capture does
  -- not, and a castling is made by the other colour
  have keep : ∀ s : Spec.Sq, s.rank = Spec.homeRank (rightColor ct) → s ≠ m.src → s ≠ m.dst →
      (Spec.apply P m).at s = P.at s := fun s hs h1 h2 =>
    apply_at_of_ne P m pc hsrc s h1 h2
      (fun he e => by
        have := congrArg Spec.Sq.rank e
        rw [hs] at this
        have := hcap he
        cases hx : rightColor ct <;> simp_all [Spec.homeRank])
      (fun hc e => by
        obtain ⟨hK, hs', -, -⟩ := (isCastle_iff P m).mp hc
        obtain rfl := Option.some.inj (hsrc.symm.trans hK)
        rw [hs, hs'] at e
        apply hpk
        cases hx : rightColor ct <;> cases hy : P.side <;> simp_all [Spec.homeRank])
  exact ⟨by rw [keep _ rfl (fun e => hpk (Option.some.inj (hsrc.symm.trans (e ▸ pK)))) (fun e => hnk _ (e ▸ pK))]; exact pK,
    by rw [keep _ (by cases ct <;> rfl) (Ne.symm hts) (Ne.symm htd)]; exact pR⟩

theorem lp_pawns (hland : (m.dst.rank = 0 ∨ m.dst.rank = 7) → (landed P.side pc m.promo).kind ≠ .pawn)
    (s : Spec.Sq) (hs : s ∈ Spec.allSquares) (hrk : s.rank = 0 ∨ s.rank = 7) :
    (Spec.apply P m).at s ≠ some ⟨.white, .pawn⟩ ∧ (Spec.apply P m).at s ≠ some ⟨.black, .pawn⟩ := by
  rcases apply_at_cases P m pc hsrc s with e | e | ⟨rfl, e⟩ | e <;> rw [e]
  · exact lp.pawns s hs hrk
  · exact ⟨nofun, nofun⟩
  · have hk := hland hrk
    constructor <;> (intro hx; rw [Option.some.inj hx] at hk; exact hk rfl)
  · exact ⟨by simp, by simp⟩

/-- the result of a move is a legal position: the clauses every kind of move keeps in the same way,
    from three facts about the move (no king is captured; an en passant capture starts off the edge
    ranks; what lands on an edge rank is no pawn) and the clause about the new en passant target -/
theorem lp_apply_of (hnk : ∀ c, P.at m.dst ≠ some ⟨c, .king⟩)
    (hcap : Spec.isEnPassant P m = true → m.src.rank ≠ 0 ∧ m.src.rank ≠ 7)
    (hland : (m.dst.rank = 0 ∨ m.dst.rank = 7) → (landed P.side pc m.promo).kind ≠ .pawn)
    (hkw : (Spec.kingSquares (Spec.apply P m) .white).length = 1)
    (hkb : (Spec.kingSquares (Spec.apply P m) .black).length = 1)
    (hsafe : Spec.inCheck (Spec.apply P m) P.side = false)
    (hep : ∀ e, epAfter P.side pc m = some e →
      e.file < 8 ∧ e.rank = (match P.side with | .white => 2 | .black => 5) ∧ ((Spec.apply P m).at e).isNone = true ∧
      (Spec.apply P m).at ⟨e.file, ((e.rank : Int) + Spec.fwd P.side).toNat⟩ = some ⟨P.side, .pawn⟩ ∧
      ((Spec.apply P m).at ⟨e.file, ((e.rank : Int) - Spec.fwd P.side).toNat⟩).isNone = true) :
    LP (Spec.apply P m) := by
  have hs : (Spec.apply P m).side.opp = P.side := by rw [apply_side P m pc hsrc, Color.opp_opp]
  have r := lp_rights P lp m pc hsrc hnk hcap
  refine ⟨hkw, hkb, by rw [hs]; exact hsafe, lp_pawns P lp m pc hsrc hland, r .wks, r .wqs, r .bks, r .bqs, fun e he => ?_⟩
  rw [hs]
  exact hep e ((apply_epTarget P m pc hsrc).symm.trans he)

end

theorem lp_double_step (P : Spec.Position) (hsz : P.cells.size = 64) (m : Spec.Move) (c : Color)
    (hsrc : P.at m.src = some ⟨c, .pawn⟩) (ho : InB m.src) (ht : InB m.dst)
    (hrule : normalRule P m.src ⟨c, .pawn⟩ m.dst = true) (hpo : promoOK c ⟨c, .pawn⟩ m.dst m.promo = true)
    (e : Spec.Sq) (he : epAfter c ⟨c, .pawn⟩ m = some e) :
    e.file < 8 ∧ e.rank = (match (generalizing := false) c with | .white => 2 | .black => 5) ∧ ((Spec.apply P m).at e).isNone = true ∧
    (Spec.apply P m).at ⟨e.file, ((e.rank : Int) + Spec.fwd c).toNat⟩ = some ⟨c, .pawn⟩ ∧
    ((Spec.apply P m).at ⟨e.file, ((e.rank : Int) - Spec.fwd c).toNat⟩).isNone = true := by
  have hat : ∀ s, (Spec.apply P m).at s =
      if s = m.dst then some (landed P.side ⟨c, .pawn⟩ m.promo) else if s = m.src then none else P.at s := fun s => by
    rw [at_congr _ _ (apply_cells_of_rule P m _ hsrc hrule), at_put _ (by rw [put_size, hsz]) _ _ _ ht, at_put _ hsz _ _ _ ho]
  obtain ⟨hcond, rfl⟩ := (epAfter_eq_some_iff ..).mp he
  obtain ⟨⟨sf, sr⟩, ⟨df, dr⟩, pr⟩ := m
  simp only at hsrc ho ht hrule hpo hcond hat ⊢
  rcases pawn_rule_facts P _ _ c hrule with h1 | ⟨h1, hst, hfile, hmid⟩
  · exfalso; cases c <;> simp only [Spec.fwd] at h1 <;> omega
  · -- two ranks ahead on the same file: origin, skipped square and destination are known
    simp only at h1 hst hfile hmid
    subst hfile
    obtain rfl : pr = none := promoOK_none hpo fun ⟨_, hl⟩ => by
      cases c <;> simp only [Spec.fwd, Spec.lastRank, Spec.pawnStartRank] at h1 hst hl <;> omega
    obtain rfl : dr = ((sr : Int) + 2 * Spec.fwd c).toNat := by omega
    cases c <;> simp only [Spec.pawnStartRank] at hst <;> subst hst
    all_goals
      refine ⟨ho.1, rfl, ?_, ?_, ?_⟩
      · rw [hat, if_neg (by simp [Spec.fwd]), if_neg (by simp [Spec.fwd])]; exact hmid
      · rw [hat]; exact if_pos rfl
      · rw [hat, if_neg (by simp [Spec.fwd]), if_pos (by simp [Spec.fwd])]; rfl

theorem lp_normal (P : Spec.Position) (hsz : P.cells.size = 64) (lp : LP P) (m : Spec.Move) (pc : Piece)
    (hsrc : P.at m.src = some pc) (hcol : pc.color = P.side) (ho : InB m.src) (ht : InB m.dst)
    (hrule : normalRule P m.src pc m.dst = true) (hpo : promoOK P.side pc m.dst m.promo = true)
    (hkw : (Spec.kingSquares (Spec.apply P m) .white).length = 1)
    (hkb : (Spec.kingSquares (Spec.apply P m) .black).length = 1)
    (hsafe : Spec.inCheck (Spec.apply P m) P.side = false) : LP (Spec.apply P m) := by
  have hne : Spec.isEnPassant P m = false := not_ep hsrc hrule
  refine lp_apply_of P lp m pc hsrc (spec_no_king_capture P lp m.src m.dst ho ht pc hsrc hcol hrule)
    (fun he => by rw [hne] at he; cases he) (fun hrk => ?_) hkw hkb hsafe (fun e he => ?_)
  · -- the piece that lands is not a pawn when the destination is rank 0 or 7
    have hx := (promoOK_iff _ _ _ _).mp hpo
    split at hx
    · obtain ⟨k, e, hk⟩ := hx
      rw [e]
      exact (promoKinds_ne hk).2
    · -- no flag: a pawn that moved onto rank 0 or 7 would have reached its last rank
      rename_i hn
      rw [hx]
      intro hpw
      apply hn
      refine ⟨hpw, ?_⟩
      obtain ⟨c, k⟩ := pc
      simp only at hpw hcol
      subst hpw
      rw [← hcol]
      unfold InB at ho
      rcases pawn_rule_facts P m.src m.dst c hrule with h1 | ⟨h1, h2, _, _⟩ <;>
        cases c <;> simp only [Spec.fwd, Spec.lastRank] at h1 ⊢ <;> omega
  · -- a new en passant target comes from a pawn's double step
    have hk : pc.kind = .pawn := ((epAfter_eq_some_iff ..).mp he).1.1
    obtain ⟨c, k⟩ := pc
    simp only at hk hcol
    subst hk
    rw [← hcol] at hpo he ⊢
    exact lp_double_step P hsz m c hsrc ho ht hrule hpo e he

theorem lp_ep (P : Spec.Position) (lp : LP P) (m : Spec.Move) (c : Color)
    (hsrc : P.at m.src = some ⟨c, .pawn⟩) (hcol : c = P.side)
    (hatt : Spec.attacksFrom P m.src ⟨c, .pawn⟩ m.dst = true)
    (hnone : (P.at m.dst).isSome = false) (hep : P.ep = some m.dst)
    (hkw : (Spec.kingSquares (Spec.apply P m) .white).length = 1)
    (hkb : (Spec.kingSquares (Spec.apply P m) .black).length = 1)
    (hsafe : Spec.inCheck (Spec.apply P m) P.side = false) : LP (Spec.apply P m) := by
  have hdn : P.at m.dst = none := Option.isNone_iff_eq_none.mp (Option.isSome_eq_false_iff.mp hnone)
  obtain ⟨_, hrank, _, _, _⟩ := lp.ep _ hep
  rw [attacksFrom_pawn] at hatt
  rw [← hcol] at hrank
  -- origin on the fifth rank, destination on the sixth (from the mover's side)
  have hranks : (m.src.rank = 4 ∧ m.dst.rank = 5) ∨ (m.src.rank = 3 ∧ m.dst.rank = 2) := by
    cases c <;> simp only [Color.opp, Spec.fwd] at hatt hrank <;> omega
  refine lp_apply_of P lp m _ hsrc (fun c => by rw [hdn]; nofun) (fun _ => by omega) (fun h => by omega) hkw hkb hsafe
    (fun e he => ?_)
  have := ((epAfter_eq_some_iff ..).mp he).1.2
  rw [hatt.1] at this
  cases c <;> exact absurd this (by decide)

theorem lp_castle (P : Spec.Position) (lp : LP P) (m : Spec.Move) (pc : Piece) (hsrc : P.at m.src = some pc)
    (hk : pc.kind = .king) (hpn : m.promo = none) (hic : Spec.isCastle P m = true) (hcc : castleCond P m = true)
    (hkw : (Spec.kingSquares (Spec.apply P m) .white).length = 1)
    (hkb : (Spec.kingSquares (Spec.apply P m) .black).length = 1)
    (hsafe : Spec.inCheck (Spec.apply P m) P.side = false) : LP (Spec.apply P m) := by
  refine lp_apply_of P lp m pc hsrc (fun c => by rw [castle_dst_empty P m hic hcc]; nofun) (fun he => ?_)
    (fun _ => by rw [hpn]; show pc.kind ≠ _; rw [hk]; nofun) hkw hkb hsafe
    (fun e he => by rw [((epAfter_eq_some_iff ..).mp he).1.1] at hk; cases hk)
  rw [Option.some.inj (hsrc.symm.trans ((isEnPassant_iff P m).mp he).1)] at hk
  cases hk

/-- the king counts of the result are supplied by the caller (`generateMoves_wf` reads them off the mailbox) -/
theorem lp_apply (P : Spec.Position) (hsz : P.cells.size = 64) (lp : LP P) (m : Spec.Move) (hlegal : Spec.legal P m = true)
    (hkw : (Spec.kingSquares (Spec.apply P m) .white).length = 1)
    (hkb : (Spec.kingSquares (Spec.apply P m) .black).length = 1) : LP (Spec.apply P m) := by
  obtain ⟨hps, hsafe⟩ := (legal_iff P m).mp hlegal
  obtain ⟨ho, ht, pc, hsrc, hcol, hcase⟩ := (pseudoLegal_iff P m).mp hps
  rcases hcase with ⟨hrule, hpo⟩ | ⟨hk, _, hatt, hnone, hep, _⟩ | ⟨hk, hpn, hic, hcc⟩
  · exact lp_normal P hsz lp m pc hsrc hcol ho ht hrule hpo hkw hkb hsafe
  · obtain ⟨c, k⟩ := pc
    simp only at hk hcol
    subst hk
    exact lp_ep P lp m c hsrc hcol hatt hnone hep hkw hkb hsafe
  · exact lp_castle P lp m pc hsrc hk hpn hic hcc hkw hkb hsafe

variable (h : Hasher)

theorem succsForTarget_wf (p : Pos) (wf : WFp p) (o : Spec.Sq) (ho : InB o) (pc : Piece)
    (hpc : p.board.get (toPt o).row (toPt o).col = .full pc) (hcol : pc.color = p.toMove) (mov : Point)
    (hmov : mov ∈ getMoves pc (toPt o).row (toPt o).col p.board .all) :
    ∀ q ∈ succsForTarget h pc p (toPt o) mov, InnerOK q.board ∧ KingsOK q := by
  intro q hq
  obtain ⟨hm, hrule⟩ := (getMoves_spec p wf.ring wf.inner o ho pc hpc mov).mp hmov
  obtain ⟨-, hi1, hk1⟩ := st1_wf h p wf.ring wf.inner wf.kings pc (toPt o) mov hpc hm
    (no_king_capture p wf o ho pc hpc hcol mov hm hrule)
  rw [succsForTarget_eq] at hq
  split at hq
  · cases hq
  -- stages 2 and 3 leave the board and the king caches alone
  generalize hnb : st3 h pc (toPt o) mov (st2 h pc (toPt o) mov (st1 h pc p (toPt o) mov)) = nb at hq
  have hb : nb.board = (st1 h pc p (toPt o) mov).board := by rw [← hnb, st3_board, st2_board]
  obtain ⟨hw, hbk⟩ := st23_kings h pc (toPt o) mov (st1 h pc p (toPt o) mov)
  rw [hnb] at hw hbk
  have hk3 : KingsOK nb := hk1.of_kingAt hw hbk fun c hc => by rw [hb]; exact hc
  rw [st4_eq_lastRank h _ _ _ _ hm] at hq
  split at hq
  · -- promotion fan-out: the arriving pawn is replaced by a piece that is not a king
    rename_i hp
    obtain ⟨kind, hkind, rfl⟩ := (mem_promotePawn_iff h nb pc.color (toPt o) mov q).mp hq
    have hkk := (promoKinds_ne ((mem_promotionOrder kind).mp hkind)).1
    have hget : nb.board.get mov.row mov.col = .full pc := by
      rw [hb, st1_board, movePiece_board_full h p (toPt o) mov pc hpc]
      exact Board.get_set_eq _ _ _ _ hm.lt.1 hm.lt.2
    refine ⟨innerOK_set _ mov _ (by rw [unsetEp_board, hb]; exact hi1) (by simp), ?_⟩
    refine hk3.of_kingAt (unsetEp_wk h nb) (unsetEp_bk h nb) fun c hc => ?_
    show KingAt ((nb.unsetEp h).board.set mov.row mov.col _) c _
    rw [unsetEp_board]
    exact hc.set_other (by simp [hkk]) (hc.ne (by rw [hget]; intro e; rw [Square.full.inj e] at hp; cases hp.1))
  · rw [List.mem_singleton.mp hq, hb]
    exact ⟨hi1, hk3⟩

theorem epSuccs_wf (p : Pos) (wf : WFp p) (o : Spec.Sq) (ho : InB o) (pc : Piece)
    (hpc : p.board.get (toPt o).row (toPt o).col = .full pc) (hcol : pc.color = p.toMove) :
    ∀ q ∈ epSuccs h pc p (toPt o), InnerOK q.board ∧ KingsOK q := by
  intro q hq
  obtain ⟨c, mov, _, x, _, rfl⟩ := (mem_epSuccs h p wf o ho pc hpc hcol q).mp hq
  exact (epBoard_wf h p wf o c mov x).2

theorem generateMoves_wf_model (p : Pos) (wf : WFp p) :
    ∀ q ∈ generateMoves h p .all, InnerOK q.board ∧ KingsOK q := by
  intro q hq
  rcases (mem_generateMoves_toPt h p .all q).mp hq with
    ⟨o, pc, ho, hpc, hcol, ⟨mov, hmov, hqm⟩ | hqe⟩ | ⟨_, ct, _, hcan, rfl⟩
  · exact succsForTarget_wf h p wf o ho pc hpc hcol mov hmov q hqm
  · exact epSuccs_wf h p wf o ho pc hpc hcol q hqe
  · exact (castleSucc_wf h p wf ct hcan).2

theorem generateMoves_wf (p : Pos) (wf : WFp p) (hinv : Inv h p) :
    ∀ q ∈ generateMoves h p .all, WFp q ∧ Inv h q := by
  intro q hq
  obtain ⟨hinvq, _, _⟩ := generateMoves_inv h p .all hinv q hq
  obtain ⟨hiq, hkq⟩ := generateMoves_wf_model h p wf q hq
  obtain ⟨hlegal, habs⟩ := generateMoves_sound h p wf q hq
  have hk1 : ∀ c, (Spec.kingSquares (Spec.apply (abs p) (moveOf q)) c).length = 1 := fun c => by
    rw [← habs, kingSquares_eq q hinvq.ring hkq c]; rfl
  have lpq : LP (abs q) := by
    rw [habs]
    exact lp_apply (abs p) (abs_size p) wf.lp (moveOf q) hlegal (hk1 .white) (hk1 .black)
  exact ⟨⟨hinvq.ring, hiq, hkq, lpq, fun t ht => (hinvq.ep t ht).1⟩, hinvq⟩

theorem front_spec (c : Color) (t : Point) (hob : OnBoard t)
    (hr : (specOf t).rank = (match c.opp with | .white => 2 | .black => 5)) :
    InB ⟨(specOf t).file, (((specOf t).rank : Int) + Spec.fwd c.opp).toNat⟩ ∧
    front c t = toPt ⟨(specOf t).file, (((specOf t).rank : Int) + Spec.fwd c.opp).toNat⟩ := by
  unfold OnBoard at hob
  cases c <;> simp only [Color.opp, Spec.fwd, specOf, front, toPt, InB, Point.mk.injEq] at hr ⊢ <;> omega

theorem epWF_of_lp (p : Pos) (hlp : LP (abs p)) (hepb : ∀ t, p.ep = some t → OnBoard t) : EpWF p := by
  intro t ht
  have hob := hepb t ht
  obtain ⟨_, hrank, _, hpawn, _⟩ := hlp.ep _ (abs_ep_some ht)
  obtain ⟨hin, hfr⟩ := front_spec p.toMove t hob hrank
  rw [hfr]
  exact ⟨hob, toPt_onBoard _ hin, get_of_at p _ hin _ hpawn⟩

end Walleye
