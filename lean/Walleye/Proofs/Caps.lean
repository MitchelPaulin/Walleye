/- capture-only generation: the targets are the all-moves targets that are occupied
   (`getMoves_caps_eq`), each holds an enemy piece, and the en passant target is always cleared (C13) -/
import Walleye.Proofs.Succ
namespace Walleye

/-- `pt` holds a piece of `c`'s opponent: what C13 says of the square a capture-only successor has moved to -/
def EnemyAt (b : Board) (c : Color) (pt : Point) : Prop :=
  ∃ q : Piece, b.get pt.row pt.col = .full q ∧ q.color = c.opp

/-- `P` is left open: the knight loop reads the target through `ptI`, the king loop directly -/
theorem tgt_filter_caps (c : Color) (sq : Square) (pt : Point) (P : Point → Bool)
    (h : sq ≠ .boundary → P pt = !sq.isEmpty) :
    (if sq.isEmptyOrColor c then
        if Mode.caps = Mode.caps then (if !sq.isEmpty then some pt else none) else some pt else none) =
    (if sq.isEmptyOrColor c then
        if Mode.all = Mode.caps then (if !sq.isEmpty then some pt else none) else some pt else none).filter P := by
  by_cases he : sq.isEmptyOrColor c = true
  · rw [if_pos he, if_pos he, if_pos (rfl : Mode.caps = Mode.caps), if_neg (show ¬ Mode.all = Mode.caps by decide),
      Option.filter_some, h (isEmptyOrColor_ne_boundary _ _ he)]
  · rw [if_neg he, if_neg he]; rfl

/-- the squares the walk passes are empty; the square it stops on is occupied if it holds an enemy piece -/
theorem slideDir_caps (piece : Piece) (row col : Nat) (b : Board) (d : Int × Int) :
    slideDir piece row col b .caps d =
      (slideDir piece row col b .all d).filter fun pt => !(b.get pt.row pt.col).isEmpty := by
  obtain ⟨hemp, hhit⟩ := walk_spec b d.1 d.2 walkFuel ((row : Int) + d.1) ((col : Int) + d.2)
  rw [slideDir_walk, slideDir_walk, if_neg (show ¬ Mode.caps = Mode.all by decide), if_pos (rfl : Mode.all = Mode.all),
    List.filter_append, List.filter_eq_nil_iff.mpr fun pt hpt => by rw [hemp pt hpt]; decide]
  split
  · rename_i hc
    rw [List.filter_cons_of_pos (by rw [← hhit (isColor_ne_boundary _ _ hc), isColor_not_empty _ _ hc]; rfl)]
    rfl
  · rfl

/-! The two sub-expressions of `pawnMoves` under the filter "occupied": a capture target stays (`filter_capture`),
the pushes all go (`filter_push`). -/

theorem filter_capture (b : Board) (r c : Nat) (col : Color) :
    List.filter (fun pt => !(b.get pt.row pt.col).isEmpty) (if (b.get r c).isColor col then [(⟨r, c⟩ : Point)] else []) =
      if (b.get r c).isColor col then [⟨r, c⟩] else [] := by
  split
  · rename_i h
    exact List.filter_cons_of_pos (by rw [isColor_not_empty _ _ h]; rfl)
  · rfl

theorem filter_push (b : Board) (r1 r2 c : Nat) (cond : Prop) [Decidable cond] :
    List.filter (fun pt => !(b.get pt.row pt.col).isEmpty)
      (if (b.get r1 c).isEmpty = true then
        (⟨r1, c⟩ : Point) :: (if cond ∧ (b.get r2 c).isEmpty = true then [⟨r2, c⟩] else []) else []) = [] := by
  rw [List.filter_eq_nil_iff]
  intro pt hpt
  split at hpt
  · rename_i h1
    rcases List.mem_cons.mp hpt with rfl | h
    · simp [h1]
    · split at h
      · rename_i h2; rw [List.mem_singleton.mp h]; simp [h2.2]
      · cases h
  · cases hpt

theorem getMoves_caps_eq (piece : Piece) (row col : Nat) (b : Board) :
    getMoves piece row col b .caps =
      (getMoves piece row col b .all).filter fun pt => !(b.get pt.row pt.col).isEmpty := by
  have slides : ∀ dirs : List (Int × Int), dirs.flatMap (slideDir piece row col b .caps) =
      (dirs.flatMap (slideDir piece row col b .all)).filter fun pt => !(b.get pt.row pt.col).isEmpty := fun dirs => by
    rw [List.filter_flatMap]
    congr 1; funext d; exact slideDir_caps piece row col b d
  unfold getMoves
  cases piece.kind <;> simp only
  · -- `l ++ r ++ push` in both modes; in capture-only mode `push` is empty, and filtered it is empty as well
    unfold pawnMoves
    cases piece.color <;> simp only [reduceCtorEq, false_and, if_false, true_and, List.filter_append] <;>
      rw [filter_capture, filter_capture, filter_push]
  · unfold knightMoves
    rw [List.filter_filterMap]
    congr 1; funext rc
    exact tgt_filter_caps _ _ _ _ fun h => by rw [get_ptI b _ _ h]
  · exact slides _
  · exact slides _
  · unfold queenMoves rookMoves bishopMoves
    rw [List.filter_append, slides, slides]
  · unfold kingMoves
    rw [List.filter_flatMap]
    congr 1; funext i
    dsimp only
    rw [List.filter_filterMap]
    congr 1; funext j
    exact tgt_filter_caps _ _ _ _ fun _ => rfl

theorem mem_getMoves_caps (piece : Piece) (row col : Nat) (b : Board) (pt : Point) :
    pt ∈ getMoves piece row col b .caps ↔
      pt ∈ getMoves piece row col b .all ∧ (b.get pt.row pt.col).isEmpty = false := by
  rw [getMoves_caps_eq, List.mem_filter, Bool.not_eq_true']

theorem getMoves_subset_all (piece : Piece) (row col : Nat) (b : Board) (mode : Mode) :
    ∀ pt ∈ getMoves piece row col b mode, pt ∈ getMoves piece row col b .all := by
  cases mode with
  | all => exact fun _ hpt => hpt
  | caps => exact fun pt hpt => ((mem_getMoves_caps piece row col b pt).mp hpt).1

theorem getMoves_caps_enemyAt (piece : Piece) (row col : Nat) (b : Board) :
    ∀ pt ∈ getMoves piece row col b .caps, EnemyAt b piece.color pt := fun pt hpt =>
  isColor_full _ _ (getMoves_tgtOK piece row col b .caps pt hpt)

/-- a capture is never a double step, so stage 3 always clears the en passant target -/
theorem st3_ep_caps (h : Hasher) (piece : Piece) (sq mov : Point) (nb : Pos) (b : Board)
    (hm : mov ∈ getMoves piece sq.row sq.col b .caps) : (st3 h piece sq mov nb).ep = none := by
  rw [st3_ep]
  refine if_neg fun hd => ?_
  unfold getMoves at hm
  simp only [hd.1] at hm
  have := hd.2
  rcases pawnMoves_row _ _ _ _ _ mov hm with e | ⟨e, -⟩
  · generalize piece.color = c at e
    cases c <;> simp only [ahead] at e <;> omega
  · cases e

theorem generateMoves_caps_subset (h : Hasher) (p : Pos) :
    ∀ s ∈ generateMoves h p .caps, s ∈ generateMoves h p .all := by
  intro s hs
  rcases (mem_generateMoves h p .caps s).mp hs with ⟨pt, piece, hon, hsq, hcol, hin⟩ | ⟨hm, -⟩
  · exact (mem_generateMoves h p .all s).mpr (.inl ⟨pt, piece, hon, hsq, hcol,
      hin.imp_left fun ⟨mov, hmov, hsm⟩ => ⟨mov, getMoves_subset_all _ _ _ _ .caps mov hmov, hsm⟩⟩)
  · cases hm

theorem generateMoves_caps_shape (h : Hasher) (p : Pos) :
    ∀ s ∈ generateMoves h p .caps,
      s.ep = none ∧ ∃ sq mov, s.lastMove = some (sq, mov) ∧ (EnemyAt p.board p.toMove mov ∨ p.ep = some mov) := by
  intro s hs
  rcases (mem_generateMoves h p .caps s).mp hs with ⟨pt, piece, -, -, hc, ⟨mov, hmov, hsm⟩ | h2⟩ | ⟨hm, -⟩
  · have hen := getMoves_caps_enemyAt piece pt.row pt.col p.board mov hmov
    rw [hc] at hen
    rw [succsForTarget_eq] at hsm
    split at hsm
    · cases hsm
    · have hep := st3_ep_caps h piece pt mov (st2 h piece pt mov (st1 h piece p pt mov)) p.board hmov
      rw [st4_eq_rows] at hsm
      split at hsm
      · obtain ⟨k, -, rfl⟩ := (mem_promotePawn_iff ..).mp hsm
        exact ⟨by simp, pt, mov, rfl, Or.inl hen⟩
      · rw [List.mem_singleton.mp hsm]
        exact ⟨hep, pt, mov, st123_lastMove h piece p pt mov, Or.inl hen⟩
  · rw [epSuccs_eq] at h2
    split at h2
    · split at h2
      · cases h2
      · rename_i mov hmv
        obtain rfl := List.mem_singleton.mp (List.mem_ite_nil_right.mp h2).2
        exact ⟨epBoard_ep .., pt, mov, epBoard_lastMove .., Or.inr (pawnMovesEnPassant_eq piece pt.row pt.col p mov hmv)⟩
    · cases h2
  · cases hm

end Walleye
