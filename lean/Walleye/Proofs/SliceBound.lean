/-
  C09: the time slice never exceeds the mover's clock, is at most 80 % of (clock − 100 ms) / moves
  to go up to binary64 rounding, and is zero without usable clock and increment — for ALL integer
  clocks and increments (no size bound) and every moves-to-go ≥ 1 (that it fits a u32, which the
  statements of `slice_le_clock` and of Props/C09 assume, is not needed: its double is only used
  through `ofInt_rounds`; `sliceCore_le_clock` is the statement without it).
  `sliceCore_eq` turns the two binary64 tests into tests on the integers, once; the bound on the
  plan is a chain of `Rounds` facts over ℚ (`plan_chain`), in which no double occurs.
-/
import Walleye.Proofs.Float
namespace Walleye
open F64

/-- the body of `calculateTimeSlice` on the mover's own numbers: a literal copy of it (Model/Time.lean) from
    `let clock` on, to be edited with the model; `calculateTimeSlice_eq` ties the two by `rfl` -/
def sliceCore (clockI incI : Int) (mtgN : Nat) : Nat :=
  let clock := ofInt clockI
  let increment := ofInt incI
  let base := sub clock (ofInt Gen.safeguardMs)
  if le base zero then
    if lt zero increment then
      let planned : Dy := ofInt (roundHalfAway (mul increment maxUsage))
      toU128 (roundHalfAway (fmin planned (fmax clock zero)))
    else Gen.noTime
  else
    if mtgN = 0 then 2 ^ 128 - 1
    else toU128 (roundHalfAway (div (mul base maxUsage) (ofInt mtgN)))

def moverClock (gt : GameTime) : Color → Int
  | .white => gt.wtime
  | .black => gt.btime

def moverInc (gt : GameTime) : Color → Int
  | .white => gt.winc
  | .black => gt.binc

theorem calculateTimeSlice_eq (gt : GameTime) (c : Color) :
    calculateTimeSlice gt c = sliceCore (moverClock gt c) (moverInc gt c) gt.mtg := by
  cases c <;> rfl

theorem val_safeguard : val (ofInt (Gen.safeguardMs : Nat)) = 100 := by
  simpa [Gen.safeguardMs] using ofInt_exact 100 (by norm_num)

theorem base_le_zero_iff (clockI : Int) :
    le (sub (ofInt clockI) (ofInt (Gen.safeguardMs : Nat))) zero = true ↔ clockI ≤ 100 := by
  rw [le_spec, val_zero, ← not_lt, (sub_rounds _ _).pos_iff, val_safeguard, _root_.sub_pos, not_lt]
  exact_mod_cast ofInt_le_iff clockI 100 (by norm_num) (by norm_num)

theorem inc_pos_iff (incI : Int) : lt zero (ofInt incI) = true ↔ 0 < incI := by
  rw [lt_spec, val_zero, (ofInt_rounds _).pos_iff, Int.cast_pos]

theorem sliceCore_eq (clockI incI : Int) (mtgN : Nat) : sliceCore clockI incI mtgN =
    if clockI ≤ 100 then
      if 0 < incI then
        toU128 (roundHalfAway (fmin (ofInt (roundHalfAway (mul (ofInt incI) maxUsage))) (fmax (ofInt clockI) zero)))
      else 0
    else if mtgN = 0 then 2 ^ 128 - 1
    else toU128 (roundHalfAway
      (div (mul (sub (ofInt clockI) (ofInt (Gen.safeguardMs : Nat))) maxUsage) (ofInt mtgN))) := by
  simp only [sliceCore, base_le_zero_iff, inc_pos_iff, Gen.noTime]

theorem slice_zero (clockI incI : Int) (mtgN : Nat) (hc : clockI ≤ 100) (hi : incI ≤ 0) :
    sliceCore clockI incI mtgN = 0 := by
  rw [sliceCore_eq, if_pos hc, if_neg (not_lt.2 hi)]

theorem int_le_of_le_add_half (n M : ℤ) (h : (n : ℚ) ≤ M + 1 / 2) : n ≤ M :=
  Int.lt_add_one_iff.1 (by exact_mod_cast h.trans_lt ((add_lt_add_iff_left _).2 one_half_lt_one))

theorem maxUsage_rounds : Rounds (val maxUsage) (4 / 5) :=
  round53_spec _ _ (by decide) 0 (by norm_num [Gen.maxUsageNum, Gen.maxUsageDen])

/-- the plan over ℚ: `b` rounds `c − 100`, `t` rounds `b · m`, `g'` rounds the moves to go `g`, `w` rounds
    `t / g'`, `m` rounds 4/5; six roundings (the clock's counted twice) stay below 2^-50 -/
theorem plan_chain {K g c b m t w g' : ℚ} (hK : 0 < K) (hg : 0 < g) (hc : c - 100 ≤ K * (1 + 2 / 2 ^ 53))
    (hb : Rounds b (c - 100)) (hm : Rounds m (4 / 5)) (ht : Rounds t (b * m)) (hg' : Rounds g' g)
    (hw : Rounds w (t / g')) :
    w ≤ 4 / 5 * K / g * (1 + 1 / 2 ^ 50) := by
  have b1 := hb.le_of_le hc (by positivity)
  have hm' := hm.of_pos (by norm_num)
  have b2 := ht.le_of_le (mul_le_mul b1 hm'.2.1 hm'.2.2.le (by positivity)) (by positivity)
  have hg1 := (hg'.of_pos hg).1
  have hg2 : 0 < g * (1 - 1 / 2 ^ 53) := mul_pos hg (by norm_num)
  have b3 := hw.le_of_le ((div_le_div_of_nonneg_right b2 (hg2.le.trans hg1)).trans
    (div_le_div_of_nonneg_left (by positivity) hg2 hg1)) (by positivity)
  refine b3.trans ?_
  have num : (1 + 2 / 2 ^ 53 : ℚ) * (1 + 1 / 2 ^ 53) ^ 4 / (1 - 1 / 2 ^ 53) ≤ 1 + 1 / 2 ^ 50 := by norm_num
  -- the three factors as variables: `ring` is slow on the numerals themselves
  generalize (1 + 2 / 2 ^ 53 : ℚ) = p, (1 + 1 / 2 ^ 53 : ℚ) = r, (1 - 1 / 2 ^ 53 : ℚ) = v at num ⊢
  calc K * p * r * (4 / 5 * r) * r / (g * v) * r = 4 / 5 * K / g * (p * r ^ 4 / v) := by ring
    _ ≤ 4 / 5 * K / g * (1 + 1 / 2 ^ 50) := mul_le_mul_of_nonneg_left num (by positivity)

theorem plan_bound (clockI : Int) (mtgN : Nat) (hc : 101 ≤ clockI) (hm : 1 ≤ mtgN) :
    val (div (mul (sub (ofInt clockI) (ofInt (Gen.safeguardMs : Nat))) maxUsage) (ofInt mtgN)) ≤
      4 / 5 * ((clockI : ℚ) - 100) / mtgN * (1 + 1 / 2 ^ 50) := by
  have hK : (0 : ℚ) < (clockI : ℚ) - 100 := sub_pos.2 (by exact_mod_cast (by omega : 100 < clockI))
  have hgq : (0 : ℚ) < mtgN := by exact_mod_cast hm
  have hg : Rounds (val (ofInt (mtgN : ℤ))) mtgN := by exact_mod_cast ofInt_rounds mtgN
  -- the clock as a double: exact below 2^53; above that, one unit of error on `clock` is at most two on `clock − 100`
  have hA : val (ofInt clockI) - 100 ≤ ((clockI : ℚ) - 100) * (1 + 2 / 2 ^ 53) := by
    rcases lt_or_ge clockI (2 ^ 53) with hs | hs
    · rw [ofInt_exact clockI (by rw [abs_of_pos (by omega)]; exact hs)]
      exact le_mul_of_one_le_right hK.le (by norm_num)
    · have h2 : (200 : ℚ) ≤ clockI := by exact_mod_cast (by omega : (200 : ℤ) ≤ clockI)
      calc val (ofInt clockI) - 100 ≤ clockI * (1 + 1 / 2 ^ 53) - 100 :=
            sub_le_sub_right (ofInt_pos clockI (by omega)).2.1 _
        _ = ((clockI : ℚ) - 100) * (1 + 2 / 2 ^ 53) - (clockI - 200) / 2 ^ 53 := by ring
        _ ≤ _ := sub_le_self _ (div_nonneg (sub_nonneg.2 h2) (by norm_num))
  exact plan_chain hK hgq hA (val_safeguard ▸ sub_rounds _ _) maxUsage_rounds (mul_rounds _ _) hg
    (div_rounds _ _ ((val_pos_iff _).1 (hg.pos_iff.2 hgq)).ne')

/-- the factor 1 + 2^-50 covers the binary64 roundings of the plan (`plan_chain`), the ½ the rounding to whole
    milliseconds -/
theorem slice_share (clockI incI : Int) (mtgN : Nat) (hc : 101 ≤ clockI) (hm : 1 ≤ mtgN) :
    ((sliceCore clockI incI mtgN : ℕ) : ℚ) ≤ 4 / 5 * ((clockI : ℚ) - 100) / mtgN * (1 + 1 / 2 ^ 50) + 1 / 2 := by
  rw [sliceCore_eq, if_neg (by omega), if_neg (by omega)]
  have : (0 : ℚ) < (clockI : ℚ) - 100 := sub_pos.2 (by exact_mod_cast (by omega : 100 < clockI))
  exact toU128_rha_le _ (by positivity) (plan_bound clockI mtgN hc hm)

theorem sliceCore_le_clock (clockI incI : Int) (mtgN : Nat) (hm : 1 ≤ mtgN) :
    ((sliceCore clockI incI mtgN : ℕ) : ℤ) ≤ max clockI 0 := by
  apply int_le_of_le_add_half
  rw [Int.cast_natCast]
  rcases le_or_gt clockI 100 with hc | hc
  · rw [sliceCore_eq, if_pos hc]
    have h0 : (0 : ℚ) ≤ ((max clockI 0 : ℤ) : ℚ) := by exact_mod_cast le_max_right clockI 0
    split
    · refine toU128_rha_le _ h0 ((fmin_le_right _ _).trans ?_)
      rw [fmax_zero]
      exact max_le ((ofInt_le_iff clockI _ (le_max_right _ _) (by omega)).2 (le_max_left _ _)) h0
    · rw [Nat.cast_zero]; exact add_nonneg h0 (by norm_num)
  · have hq : (0 : ℚ) ≤ (clockI : ℚ) - 100 := sub_nonneg.2 (by exact_mod_cast hc.le)
    refine (slice_share clockI incI mtgN (by omega) hm).trans (add_le_add ?_ le_rfl)
    rw [max_eq_left (by omega), mul_div_assoc, mul_right_comm]
    -- (4/5 · (1 + 2^-50)) · (K / mtg) ≤ 1 · K ≤ clock
    calc _ ≤ 1 * ((clockI : ℚ) - 100) :=
          mul_le_mul (by norm_num) (div_le_self hq (by exact_mod_cast hm)) (by positivity) (by norm_num)
      _ ≤ clockI := (one_mul _).trans_le (sub_le_self _ (by norm_num))

theorem slice_le_clock (clockI incI : Int) (mtgN : Nat) (hm : 1 ≤ mtgN) (hm32 : mtgN < 2 ^ 32) :
    ((sliceCore clockI incI mtgN : ℕ) : ℤ) ≤ max clockI 0 :=
  sliceCore_le_clock clockI incI mtgN hm

end Walleye
