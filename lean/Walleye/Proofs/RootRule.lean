/-
  `get_best_move` walked once.  An instance of `getBestMove_rule` states an invariant `K c` of the state
  between iterations and an invariant `I c alpha` inside the root loop of iteration `c`, and shows that
  they survive, in the order of the code: the reset at the start of an iteration, handing over the
  fall-back board, steps that report nothing, an acceptance, the step to the next iteration.  What both
  give about the state (`Q`) then holds wherever the run ends, whatever its outcome.  The smallest
  instance, and the one to copy, is `getBestMove_paired` (Proofs/Paired).  `rootLoop_rule` is the same
  for one iteration.
-/
import Walleye.Proofs.Frame
namespace Walleye

variable {P O : Type}

theorem Quiet.trans {a b c : SS P O} (h1 : Quiet a b) (h2 : Quiet b c) : Quiet a c :=
  ⟨h1.1.trans h2.1, h2.2.trans h1.2⟩

variable (g : Game P) (ord : Oracle P O)

/-- The root loop of iteration `c`, about to accept a move: under `alpha` the clock was asked (`s1`),
    the move `m` of the list `l` was searched (`s2`, result `r`), written into the current line, the
    clock asked again (`s3`) and found running; the state becomes `accepted c m (-r) s3`. -/
structure Acceptance (fuel c : Nat) (l : List P) where
  alpha : Int
  m : P
  r : Int
  (s1 s2 s3 : SS P O)
  mem : m ∈ l
  run : alphaBeta g ord fuel m (c - 1) 1 (-Gen.posInf) (-alpha) true s1 = .ok r s2
  child : Quiet s1 s2
  after : Quiet s2 s3
  cur : s3.cur = s2.cur.setIfInBounds 0 (g.lastMove m)
  running : s3.expired = false
  better : alpha < -r

variable {g ord}

theorem Acceptance.quiet {fuel c : Nat} {l : List P} (x : Acceptance g ord fuel c l) : Quiet x.s1 x.s3 :=
  x.child.trans x.after

variable (g ord)

/-- where a root loop with invariant `I` ends: with its final alpha if it ran through, else with some alpha -/
def RootEnd (I : Int → SS P O → Prop) : Res (SS P O) (Option (Int × Option P)) → Prop
  | .ok (some (A, _)) s' => I A s'
  | r => ∃ a, I a (outState r)

theorem rootLoop_rule (I : Int → SS P O → Prop) (fuel c : Nat) (first : P) (l : List P)
    (fallback : ∀ a s, I a s → I a (s.reported (.sent first)))
    (quiet : ∀ a s s', Quiet s s' → I a s → I a s')
    (accept : ∀ x : Acceptance g ord fuel c l, I x.alpha x.s1 → I (-x.r) (accepted c x.m (-x.r) x.s3)) :
    ∀ (alpha : Int) (best : Option P) (s : SS P O), I alpha s →
      RootEnd I (rootLoop g ord fuel c first l alpha best s) := by
  induction l with
  | nil => intro alpha best s hI; exact hI
  | cons m ms ih =>
    intro alpha best s hI
    have ih' := ih fun x => accept { x with mem := List.mem_cons_of_mem _ x.mem }
    have hI1 := quiet _ _ _ (asked_quiet s) hI
    rw [rootLoop_cons, bind_of_ok (tick_def s)]
    by_cases htk : s.asked.expired = true
    · rw [if_pos htk]
      cases best with
      | none => exact ⟨alpha, fallback _ _ hI1⟩
      | some b => exact ⟨alpha, hI1⟩
    · rw [if_neg htk]
      have q2 := (alphaBeta_inner g ord fuel m (c - 1) 1 (-Gen.posInf) (-alpha) true).run s.asked
      cases hab : alphaBeta g ord fuel m (c - 1) 1 (-Gen.posInf) (-alpha) true s.asked with
      | panic s2 => rw [hab] at q2; rw [bind_of_panic hab]; exact ⟨alpha, quiet _ _ _ q2 hI1⟩
      | fuel s2 => rw [hab] at q2; rw [bind_of_fuel hab]; exact ⟨alpha, quiet _ _ _ q2 hI1⟩
      | ok r s2 =>
        rw [hab] at q2; rw [bind_of_ok hab]
        have hI2 := quiet _ _ _ q2.1 hI1
        rcases insertCur_run 0 (g.lastMove m) s2 with hic | hic
        · rw [bind_of_ok hic]
          have q3 := ((insertCur_bk ..).inner.ok hic).1
          have hI3 := quiet _ _ _ q3 hI2
          by_cases hgt : -r > alpha
          · rw [if_pos hgt, bind_of_ok (tick_def _)]
            cases hx : SS.expired (SS.asked { s2 with cur := s2.cur.setIfInBounds 0 (g.lastMove m) }) with
            | true => exact ih' alpha best _ (quiet _ _ _ (asked_quiet _) hI3)
            | false =>
              exact ih' (-r) (some m) _ (accept ⟨alpha, m, r, s.asked, s2, _, List.mem_cons_self .., hab, q2.1,
                q3.trans (asked_quiet _), rfl, hx, hgt⟩ hI1)
          · rw [if_neg hgt]
            exact ih' alpha best _ hI3
        · rw [bind_of_panic hic]
          exact ⟨alpha, hI2⟩

/-- Iteration `c` run to its normal end: from `s` the root moves were ordered as `first :: rest`
    (oracle state `o'`) and the root loop ended in `s'` with alpha `A`. -/
structure IterRun (fuel c : Nat) where
  s : SS P O
  first : P
  rest : List P
  o' : O
  best : Option P
  A : Int
  B : Option P
  s' : SS P O
  run : rootLoop g ord fuel c first (first :: rest) (-Gen.posInf) best (iterStart c first o' s) = .ok (some (A, B)) s'

/-- `Moves` is what the instance needs of the list of root moves, kept by `markPV` and by the ordering;
    the root loop meets it as `first :: rest`.  The premises in the order of the code: `skip`, an iteration
    whose ordered list is empty; `start`, the reset that begins one; `fallback`, the first board is handed
    over (at the start of iteration 1, and when the clock expires with nothing accepted); `quiet`, any step
    that reports nothing; `accept`, what `Acceptance` describes; `next`, the loop ran through (`IterRun`)
    and the next iteration is due. -/
theorem getBestMove_rule (K : Nat → SS P O → Prop) (I : Nat → Int → SS P O → Prop) (Moves : List P → Prop)
    (Q : SS P O → Prop) (fuel : Nat) (root : P) (s : SS P O)
    (hQK : ∀ c s, K c s → Q s) (hQI : ∀ c a s, I c a s → Q s)
    (init : K 1 s) (hgen : Moves (g.gen root .all))
    (hmark : ∀ best, Moves (markPV g best (g.gen root .all)))
    (hord : ∀ o e l, Moves l → Moves (ord o e 'R' l).1)
    (skip : ∀ c s o', K c s → Moves [] → K (c + 1) (iterReset o' s))
    (start : ∀ c s o', K c s → I c (-Gen.posInf) (iterReset o' s))
    (fallback : ∀ c first rest a s, Moves (first :: rest) → I c a s → I c a (s.reported (.sent first)))
    (quiet : ∀ c a s s', Quiet s s' → I c a s → I c a s')
    (accept : ∀ c first rest (x : Acceptance g ord fuel c (first :: rest)), Moves (first :: rest) →
      I c x.alpha x.s1 → I c (-x.r) (accepted c x.m (-x.r) x.s3))
    (next : ∀ c (x : IterRun g ord fuel c), K c x.s → Moves (x.first :: x.rest) → I c x.A x.s' → K (c + 1) x.s') :
    Q (outState (getBestMove g ord fuel root s)) := by
  suffices h : ∀ (n c : Nat) (mv : List P) (best : Option P) (s : SS P O), Moves mv → K c s →
      Q (outState (iterate g ord fuel root n c mv best s)) from h _ _ _ _ s hgen init
  intro n
  induction n with
  | zero => intro c mv b s _ hk; exact hQK c s hk
  | succ k ih =>
    intro c mv b s hmv hk
    rw [iterate_succ]
    by_cases hcm : c ≥ Gen.maxDepth
    · rw [if_pos hcm]; exact hQK c s hk
    · rw [if_neg hcm]
      have hmv' := hord s.ord s.expired mv hmv
      cases hl : (ord s.ord s.expired 'R' mv).1 with
      | nil => rw [hl] at hmv'; exact ih _ _ _ _ (hmark b) (skip c s _ hk hmv')
      | cons first rest =>
        rw [hl] at hmv'
        have hI := start c s (ord s.ord s.expired 'R' mv).2 hk
        have hI0 : I c (-Gen.posInf) (iterStart c first (ord s.ord s.expired 'R' mv).2 s) := by
          unfold iterStart
          split
          · exact fallback c first rest _ _ hmv' hI
          · exact hI
        have hend := rootLoop_rule g ord (I c) fuel c first (first :: rest) (fun a s => fallback c first rest a s hmv')
          (quiet c) (fun x => accept c first rest x hmv') (-Gen.posInf) b _ hI0
        dsimp only
        cases hr : rootLoop g ord fuel c first (first :: rest) (-Gen.posInf) b
            (iterStart c first (ord s.ord s.expired 'R' mv).2 s) with
        | panic s4 => rw [hr] at hend; rw [bind_of_panic hr]; exact hend.elim (hQI c · _)
        | fuel s4 => rw [hr] at hend; rw [bind_of_fuel hr]; exact hend.elim (hQI c · _)
        | ok res s4 =>
          rw [hr] at hend; rw [bind_of_ok hr]
          cases res with
          | none => exact hend.elim (hQI c · _)
          | some ab => exact ih _ _ _ _ (hmark ab.2) (next c ⟨s, first, rest, _, b, ab.1, ab.2, s4, hr⟩ hk hmv' hend)

end Walleye
