/-
  Every score `get_best_move` reports lies in [-(MATE-2), MATE-1] — at every point of every run
  (any depth, any clock expiry, any ordering oracle, also if the run ends by a panic or out of fuel);
  in particular never the abort sentinel (C18 on the model).
-/
import Walleye.Proofs.Range
import Walleye.Proofs.RootRule
namespace Walleye

variable {P O : Type}

def ScoreOK (e : Int) : Prop := -(Gen.mateScore - 2) ≤ e ∧ e ≤ Gen.mateScore - 1

def InfoOK (s : SS P O) : Prop := ∀ i, Report.info i ∈ s.reports.toList → ScoreOK i.eval

theorem InfoOK.of_eq {s s' : SS P O} (h : s'.reports = s.reports) (hi : InfoOK s) : InfoOK s' := by
  unfold InfoOK at *; rw [h]; exact hi

theorem InfoOK.sent {s s' : SS P O} (q : P) (h : s'.reports = s.reports.push (.sent q)) (hi : InfoOK s) :
    InfoOK s' := by
  intro i hm
  rw [h] at hm
  simp only [Array.toList_push, List.mem_append, List.mem_singleton] at hm
  rcases hm with h | h
  · exact hi i h
  · cases h

theorem InfoOK.info {s s' : SS P O} (i0 : Info) (h0 : ScoreOK i0.eval)
    (h : s'.reports = s.reports.push (.info i0)) (hi : InfoOK s) : InfoOK s' := by
  intro i hm
  rw [h] at hm
  simp only [Array.toList_push, List.mem_append, List.mem_singleton] at hm
  rcases hm with h | h
  · exact hi i h
  · injection h with h; subst h; exact h0

variable (g : Game P) (ord : Oracle P O)

theorem getBestMove_scores_in_range (E : Nat) (hE : ∀ p, -(E : Int) ≤ g.eval p ∧ g.eval p ≤ E)
    (hEp : (E : Int) + arrSize + Gen.nullPlyJump + 1 ≤ Gen.mateScore) (fuel : Nat) (root : P) (s : SS P O)
    (hs : InfoOK s) : InfoOK (outState (getBestMove g ord fuel root s)) := by
  refine getBestMove_rule g ord (fun _ => InfoOK)
    (fun _ a s => Sz s ∧ InfoOK s ∧ (a = -Gen.posInf ∨ a ≤ Gen.mateScore - 1)) (fun _ => True) _ fuel root s
    (hQK := fun _ _ h => h) (hQI := fun _ _ _ h => h.2.1)
    (init := hs) (hgen := trivial) (hmark := fun _ => trivial) (hord := fun _ _ _ _ => trivial)
    (skip := fun _ _ _ h _ => h)
    (start := fun _ s _ h => ⟨Sz_iterReset _ s, h, Or.inl rfl⟩)
    (fallback := fun _ first _ _ _ _ h => ⟨h.1, h.2.1.sent first rfl, h.2.2⟩)
    (quiet := fun _ _ _ _ q h => ⟨Sz_mono h.1 q.1, h.2.1.of_eq q.2, h.2.2⟩)
    (accept := fun c _ _ x _ ⟨hsz, hi, ha⟩ => ?_)
    (next := fun _ _ _ _ h => h.2.1)
  have hP := posInf_eq
  have hA := arrSize_eq
  -- the clock has not expired: the child's value obeys the ply-1 window relation
  have b1 := (alphaBeta_fine g ord E hE hEp fuel x.m (c - 1) 1 (-Gen.posInf) (-x.alpha) true
    (fun _ => by omega) (by omega)).run x.s1 x.r x.s2 hsz x.run (NX_of_le x.after.1 x.running)
  unfold B at b1
  have hsc : ScoreOK (-x.r) := by
    have := x.better
    unfold ScoreOK
    rcases ha with ha | ha <;> omega
  exact ⟨Sz_mono hsz x.quiet.1, .info _ hsc (accepted_pushes ..) ((hi.of_eq x.quiet.2).sent x.m rfl), Or.inr hsc.2⟩

end Walleye
