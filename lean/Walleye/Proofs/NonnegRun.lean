/-
  C10, second sentence, for a WHOLE RUN of `get_best_move` (every game, every clock expiry, every
  ordering oracle that permutes, at every point of the run and whatever its outcome): if some root
  move leads to a position the repetition record already holds twice, then for every depth d ≥ 1 for
  which the run went on to report a line of a larger depth — a completed depth — there is a line of
  depth d with a score ≥ 0; lines of one depth carry strictly increasing scores (Proofs/Stream), so
  the LAST line of every completed depth, the engine's final score for it, is ≥ 0.
-/
import Walleye.Proofs.Reports
import Walleye.Proofs.RootNonneg
namespace Walleye
open DrawTable

variable {P O : Type}

def NonnegAt (d : Nat) (l : List Info) : Prop := ∃ j ∈ l, j.depth = d ∧ 0 ≤ j.eval

theorem NonnegAt.mono {d : Nat} {l l' : List Info} (h : NonnegAt d l) (hs : ∀ x ∈ l, x ∈ l') : NonnegAt d l' := by
  obtain ⟨j, hj, h1, h2⟩ := h; exact ⟨j, hs j hj, h1, h2⟩

def CompletedNonneg (l : List Info) : Prop := ∀ d, 1 ≤ d → (∃ i ∈ l, d < i.depth) → NonnegAt d l

structure NonnegInv (c : Nat) (s : SS P O) : Prop where
  completed : CompletedNonneg (infosOf s.reports)
  /-- as long as the clock has not expired, every earlier depth has run to its end -/
  earlier : s.expired = false → ∀ d, 1 ≤ d → d < c → NonnegAt d (infosOf s.reports)
  depth_le : ∀ i ∈ infosOf s.reports, i.depth ≤ c

theorem NonnegInv.of_infos {c : Nat} {s s' : SS P O} (e : infosOf s'.reports = infosOf s.reports)
    (hx : s'.expired = false → s.expired = false) (hk : NonnegInv c s) : NonnegInv c s' :=
  ⟨by rw [e]; exact hk.completed, fun hx' => by rw [e]; exact hk.earlier (hx hx'), by rw [e]; exact hk.depth_le⟩

theorem NonnegInv.of_eq {c : Nat} {s s' : SS P O} (h : s'.reports = s.reports) (hl : Le s s') (hk : NonnegInv c s) :
    NonnegInv c s' :=
  hk.of_infos (by rw [h]) (NX_of_le hl)

theorem NonnegInv.sent {c : Nat} {s s' : SS P O} (q : P) (h : s'.reports = s.reports.push (.sent q)) (hl : Le s s')
    (hk : NonnegInv c s) : NonnegInv c s' :=
  hk.of_infos (by rw [h, infosOf_push_sent]) (NX_of_le hl)

theorem NonnegInv.info {c : Nat} {s s' : SS P O} (i : Info) (h : s'.reports = s.reports.push (.info i)) (hd : i.depth = c)
    (hnx : s.expired = false) (hk : NonnegInv c s) : NonnegInv c s' := by
  have e : infosOf s'.reports = infosOf s.reports ++ [i] := by rw [h, infosOf_push_info]
  have sub : ∀ x ∈ infosOf s.reports, x ∈ infosOf s'.reports := by intro x hx; rw [e]; simp [hx]
  refine ⟨?_, ?_, ?_⟩
  · intro d hd1 hlater
    obtain ⟨i', hi', hlt⟩ := hlater
    rw [e] at hi'
    rcases List.mem_append.mp hi' with hi' | hi'
    · exact (hk.completed d hd1 ⟨i', hi', hlt⟩).mono sub
    · simp only [List.mem_singleton] at hi'
      subst hi'
      exact (hk.earlier hnx d hd1 (by omega)).mono sub
  · intro _ d hd1 hdc
    exact (hk.earlier hnx d hd1 hdc).mono sub
  · intro x hx
    rw [e] at hx
    rcases List.mem_append.mp hx with hx | hx
    · exact hk.depth_le x hx
    · simp only [List.mem_singleton] at hx; subst hx; omega

variable (g : Game P) (ord : Oracle P O)

theorem getBestMove_completedNonneg (hperm : OrdPerm ord) (hkey : ∀ x v, g.key (g.withOh x v) = g.key x) (fuel : Nat)
    (root : P) (t : DrawTable) (s : SS P O) (hs : s.reports = #[]) (hte : TableEq s.table t)
    (m : P) (hm : m ∈ g.gen root .all) (hrep : t.isThreefold (g.key m) = true) :
    CompletedNonneg (infosOf (outState (getBestMove g ord (fuel + 1) root s)).reports) := by
  have h0 : infosOf s.reports = [] := by unfold infosOf; rw [hs]; rfl
  refine getBestMove_rule g ord (fun c s => 1 ≤ c ∧ NonnegInv c s ∧ TableEq s.table t) (fun c _ s => NonnegInv c s)
    (fun l => ∃ x ∈ l, t.isThreefold (g.key x) = true) (fun s => CompletedNonneg (infosOf s.reports)) (fuel + 1) root s
    (hQK := fun _ _ h => h.2.1.completed) (hQI := fun _ _ _ h => h.completed)
    (init := ⟨Nat.le_refl _, ⟨(by rw [h0]; intro d _ ⟨i, hi, _⟩; cases hi), (by intro _ d h1 h2; omega),
      (by rw [h0]; intro i hi; cases hi)⟩, hte⟩)
    (hgen := ⟨m, hm, hrep⟩) (hmark := fun best => ?_)
    (hord := fun _ _ _ ⟨x, hx, h3⟩ => ⟨x, (hperm ..).mem_iff.mpr hx, h3⟩)
    (skip := fun _ _ _ _ ⟨_, hx, _⟩ => by cases hx)
    (start := fun _ s _ h => h.2.1.of_infos (s := s) rfl id)
    (fallback := fun _ first _ _ _ _ h => h.sent first rfl ⟨rfl, rfl, Nat.le_refl _⟩)
    (quiet := fun _ _ _ _ q h => h.of_eq q.2 q.1)
    (accept := fun _ _ _ x _ h => .info _ (accepted_pushes ..) rfl x.running
      ((h.of_eq x.quiet.2 x.quiet.1).sent x.m rfl ⟨rfl, rfl, Nat.le_refl _⟩))
    (next := fun c x ⟨hc, _, hte⟩ hmv hk4 => ?_)
  · rcases markPV_has g best _ m hm with h | h
    · exact ⟨m, h, hrep⟩
    · exact ⟨_, h, by rw [hkey]; exact hrep⟩
  · have hte3 : TableEq (iterStart c x.first x.o' x.s).table t := by rw [iterStart_table]; exact hte
    refine ⟨Nat.le_succ_of_le hc, ⟨hk4.completed, ?_, fun i hi => by have := hk4.depth_le i hi; omega⟩,
      ((rootLoop_root g ord (fuel + 1) c x.first (x.first :: x.rest) (-Gen.posInf) x.best).ok x.run).2.trans hte3⟩
    intro hnx d hd1 hdc
    by_cases hdc' : d < c
    · exact hk4.earlier hnx d hd1 hdc'
    · have hdeq : d = c := by omega
      subst hdeq
      -- iteration `d` ran to its end before the clock expired: its final alpha is ≥ 0 and is
      -- the score of the last line it printed
      have hA := (rootLoop_nonneg g ord hte3 x.run hnx).2 hmv
      obtain ⟨new, hnew, hdep, hlast⟩ := rootLoop_last_info g ord x.run
      rcases hlast with ⟨_, hAe⟩ | hlast
      · have := posInf_eq
        omega
      · cases hlq : (infos new).getLast? with
        | none => rw [hlq] at hlast; cases hlast
        | some j =>
          rw [hlq] at hlast
          simp only [Option.map_some, Option.some.injEq] at hlast
          have hjn : j ∈ infos new := List.mem_of_getLast? hlq
          refine ⟨j, ?_, hdep j hjn, by omega⟩
          rw [infosOf_eq_infos, hnew, infos_append]
          exact List.mem_append.mpr (Or.inr hjn)

end Walleye
