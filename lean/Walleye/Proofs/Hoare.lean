/-
  A small Hoare logic for the state/outcome monad `M` of the search model: `Triple` (a postcondition
  of the normal end) and the two-state `Steps R X` (where a computation may move the state, by
  outcome), on which the frame of the search rests (Proofs/Frame).  `Keeps` with its rules is the one-state
  form of `Steps`; nothing in the development uses it, the search proofs use `Steps`.
-/
import Walleye.Model.Search
namespace Walleye

variable {σ α β : Type}

structure Triple (P : σ → Prop) (m : M σ α) (Q : α → σ → Prop) : Prop where
  run : ∀ s a s', P s → m s = .ok a s' → Q a s'

def Keeps (I : σ → Prop) (m : M σ α) : Prop :=
  ∀ s, I s → match m s with
    | .ok _ s' => I s'
    | .panic s' => I s'
    | .fuel s' => I s'

theorem bind_ok {m : M σ α} {f : α → M σ β} {s : σ} {b : β} {s'' : σ}
    (h : (m >>= f) s = .ok b s'') : ∃ a s', m s = .ok a s' ∧ f a s' = .ok b s'' := by
  change (match m s with | .ok a s' => f a s' | .panic s' => .panic s' | .fuel s' => .fuel s') = _ at h
  cases hm : m s with
  | ok a s' => rw [hm] at h; exact ⟨a, s', rfl, h⟩
  | panic s' => rw [hm] at h; cases h
  | fuel s' => rw [hm] at h; cases h

theorem pure_ok {a b : α} {s s' : σ} (h : (Pure.pure a : M σ α) s = .ok b s') : b = a ∧ s' = s := by
  have e : (Pure.pure a : M σ α) s = .ok a s := rfl
  rw [e] at h
  injection h with h1 h2
  exact ⟨h1.symm, h2.symm⟩

theorem bind_of_ok {m : M σ α} {f : α → M σ β} {s s' : σ} {a : α} (h : m s = .ok a s') :
    (m >>= f) s = f a s' := by
  show (match m s with | .ok a s' => f a s' | .panic s' => .panic s' | .fuel s' => .fuel s') = _
  rw [h]

theorem bind_of_panic {m : M σ α} {f : α → M σ β} {s s' : σ} (h : m s = .panic s') :
    (m >>= f) s = .panic s' := by
  show (match m s with | .ok a s' => f a s' | .panic s' => .panic s' | .fuel s' => .fuel s') = _
  rw [h]

theorem bind_of_fuel {m : M σ α} {f : α → M σ β} {s s' : σ} (h : m s = .fuel s') :
    (m >>= f) s = .fuel s' := by
  show (match m s with | .ok a s' => f a s' | .panic s' => .panic s' | .fuel s' => .fuel s') = _
  rw [h]

theorem Triple.bind {P : σ → Prop} {m : M σ α} {R : α → σ → Prop} {f : α → M σ β} {Q : β → σ → Prop}
    (h1 : Triple P m R) (h2 : ∀ a, Triple (R a) (f a) Q) : Triple P (m >>= f) Q := by
  refine ⟨?_⟩
  intro s b s'' hp hb
  obtain ⟨a, s', hm, hf⟩ := bind_ok hb
  exact (h2 a).run s' b s'' (h1.run s a s' hp hm) hf

theorem Triple.pure {P : σ → Prop} {a : α} {Q : α → σ → Prop} (h : ∀ s, P s → Q a s) :
    Triple P (pure a : M σ α) Q := by
  refine ⟨?_⟩
  intro s a' s' hp he
  obtain ⟨rfl, rfl⟩ := pure_ok he
  exact h _ hp

theorem Triple.weaken {P P' : σ → Prop} {m : M σ α} {Q Q' : α → σ → Prop}
    (h : Triple P m Q) (hp : ∀ s, P' s → P s) (hq : ∀ a s, Q a s → Q' a s) : Triple P' m Q' :=
  ⟨fun s a s' hps he => hq a s' (h.run s a s' (hp s hps) he)⟩

theorem Triple.trivial {σ α : Type} {Pre : σ → Prop} {m : M σ α} : Triple Pre m (fun _ _ => True) :=
  ⟨fun _ _ _ _ _ => True.intro⟩

theorem Triple.ite {P : σ → Prop} {c : Prop} [Decidable c] {m1 m2 : M σ α} {Q : α → σ → Prop}
    (h1 : c → Triple P m1 Q) (h2 : ¬ c → Triple P m2 Q) : Triple P (if c then m1 else m2) Q := by
  by_cases hc : c
  · rw [if_pos hc]; exact h1 hc
  · rw [if_neg hc]; exact h2 hc

theorem Keeps.bind {I : σ → Prop} {m : M σ α} {f : α → M σ β}
    (h1 : Keeps I m) (h2 : ∀ a, Keeps I (f a)) : Keeps I (m >>= f) := by
  intro s hi
  show match (match m s with | .ok a s' => f a s' | .panic s' => .panic s' | .fuel s' => .fuel s') with
    | .ok _ s' => I s' | .panic s' => I s' | .fuel s' => I s'
  have := h1 s hi
  cases hm : m s with
  | ok a s' => rw [hm] at this; exact h2 a s' this
  | panic s' => rw [hm] at this; exact this
  | fuel s' => rw [hm] at this; exact this

theorem Keeps.pure {I : σ → Prop} {a : α} : Keeps I (pure a : M σ α) := fun _ hi => hi

theorem Keeps.ite {I : σ → Prop} {c : Prop} [Decidable c] {m1 m2 : M σ α}
    (h1 : Keeps I m1) (h2 : Keeps I m2) : Keeps I (if c then m1 else m2) := by
  by_cases hc : c
  · rw [if_pos hc]; exact h1
  · rw [if_neg hc]; exact h2

theorem Keeps.panic {I : σ → Prop} : Keeps I (M.panic : M σ α) := fun _ hi => hi
theorem Keeps.outOfFuel {I : σ → Prop} : Keeps I (M.outOfFuel : M σ α) := fun _ hi => hi

theorem Keeps.modify {I : σ → Prop} {f : σ → σ} (h : ∀ s, I s → I (f s)) : Keeps I (M.modify f) :=
  fun s hi => h s hi

theorem Keeps.get {I : σ → Prop} : Keeps I (M.get : M σ σ) := fun _ hi => hi

def Res.st {σ α : Type} : Res σ α → σ
  | .ok _ s => s
  | .panic s => s
  | .fuel s => s

def Res.Rel (R X : σ → σ → Prop) (s : σ) : Res σ α → Prop
  | .ok _ s' => R s s'
  | .panic s' => X s s'
  | .fuel s' => X s s'

structure Steps (R X : σ → σ → Prop) (m : M σ α) : Prop where
  run : ∀ s, (m s).Rel R X s

/-- what `Steps R X` needs in order to compose (`Steps.bind`) -/
structure StepRel (R X : σ → σ → Prop) : Prop where
  refl : ∀ s, R s s
  trans : ∀ {a b c}, R a b → R b c → R a c
  xrefl : ∀ s, X s s
  absorb : ∀ {a b c}, R a b → X b c → X a c

namespace Steps
variable {R X : σ → σ → Prop}

theorem ok {m : M σ α} (h : Steps R X m) {s s' : σ} {a : α} (he : m s = .ok a s') : R s s' := by
  have := h.run s; rw [he] at this; exact this

theorem pure (h : StepRel R X) (a : α) : Steps R X (Pure.pure a : M σ α) := ⟨h.refl⟩
theorem get (h : StepRel R X) : Steps R X (M.get : M σ σ) := ⟨h.refl⟩
theorem panic (h : StepRel R X) : Steps R X (M.panic : M σ α) := ⟨h.xrefl⟩
theorem outOfFuel (h : StepRel R X) : Steps R X (M.outOfFuel : M σ α) := ⟨h.xrefl⟩
theorem modify {f : σ → σ} (hf : ∀ s, R s (f s)) : Steps R X (M.modify f) := ⟨hf⟩

theorem bind (h : StepRel R X) {m : M σ α} {f : α → M σ β} (h1 : Steps R X m)
    (h2 : ∀ a, Steps R X (f a)) : Steps R X (m >>= f) := by
  refine ⟨fun s => ?_⟩
  have q := h1.run s
  cases hm : m s with
  | ok a s' =>
    rw [hm] at q
    rw [bind_of_ok hm]
    have r := (h2 a).run s'
    cases hf : f a s' <;> rw [hf] at r
    · exact h.trans q r
    · exact h.absorb q r
    · exact h.absorb q r
  | panic s' => rw [hm] at q; rw [bind_of_panic hm]; exact q
  | fuel s' => rw [hm] at q; rw [bind_of_fuel hm]; exact q

theorem ite {c : Prop} [Decidable c] {m1 m2 : M σ α} (h1 : Steps R X m1) (h2 : Steps R X m2) :
    Steps R X (if c then m1 else m2) := by
  split
  · exact h1
  · exact h2

theorem mono {R' X' : σ → σ → Prop} {m : M σ α} (h : Steps R X m) (hr : ∀ s s', R s s' → R' s s')
    (hx : ∀ s s', X s s' → X' s s') : Steps R' X' m := by
  refine ⟨fun s => ?_⟩
  have q := h.run s
  cases hm : m s <;> rw [hm] at q
  · exact hr _ _ q
  · exact hx _ _ q
  · exact hx _ _ q

end Steps

end Walleye
