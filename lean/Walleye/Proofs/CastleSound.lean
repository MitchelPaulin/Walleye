/-
  C01 for castling: `can_castle_*` is the specification's castling clause (`canCastle_iff_castleCond`,
  both directions), and the king does not stand in check after castling (which the generator does
  not test again).
-/
import Walleye.Proofs.Sound
import Walleye.Proofs.SuccAbsCastle
import Walleye.Proofs.CheckSpec
namespace Walleye

/-- king side (east): towards the edge lies the rook's emptied corner and behind it the ring, on the other side the
    rook itself -/
theorem castled_safe_kingside (b : Board) (hr : RingOK b) (r kto rfrom rto : Nat) (hr12 : r < 12) (hr1 : 1 ≤ r)
    (h1 : rto + 1 = kto) (h2 : kto + 1 = rfrom) (hedge : rfrom = 9)
    (K R : Piece) (ac : Color) (hR : R.color ≠ ac) (ak : Point) :
    AttackedM (castled b r kto rfrom rto K R) ac ⟨r, kto⟩ ak → AttackedM b ac ⟨r, kto⟩ ak := by
  have hkf : kFrom = 6 := rfl
  apply attackedM_of_row b _ ⟨r, kto⟩ ac ak hr1 (castled_off_row b r kto rfrom rto K R)
  · refine noHit_of_block _ ac _ _ 1 (fun i hi => ?_) (.inl ?_)
    · obtain rfl : i = 0 := by omega
      rw [rayAt_east, show kto + 1 + 0 = rfrom by omega]
      exact castled_rfrom b r kto rfrom rto K R hr12 (by omega) (by omega)
    · rw [rayAt_east, castled_other b r kto rfrom rto K R _ (by omega) (by omega) (by omega) (by omega)]
      exact get_offboard b hr r _ fun ob => by have := ob.2.2.2; simp only at this; omega
  · refine noHit_of_block _ ac _ _ 0 (fun i hi => absurd hi (by omega)) (.inr ⟨R, hR, ?_⟩)
    rw [rayAt_west _ _ _ _ (by omega), show kto - 1 - 0 = rto by omega]
    exact castled_rto b r kto rfrom rto K R hr12 (by omega)

/-- queen side (west): one more square between king and rook (`hb`: empty) -/
theorem castled_safe_queenside (b : Board) (hr : RingOK b) (r kto rfrom rto : Nat) (hr12 : r < 12) (hr1 : 1 ≤ r)
    (h1 : kto + 1 = rto) (h2 : rfrom + 2 = kto) (hedge : rfrom = 2)
    (K R : Piece) (ac : Color) (hR : R.color ≠ ac) (ak : Point) (hb : b.get r (kto - 1) = .empty) :
    AttackedM (castled b r kto rfrom rto K R) ac ⟨r, kto⟩ ak → AttackedM b ac ⟨r, kto⟩ ak := by
  have hkf : kFrom = 6 := rfl
  apply attackedM_of_row b _ ⟨r, kto⟩ ac ak hr1 (castled_off_row b r kto rfrom rto K R)
  · refine noHit_of_block _ ac _ _ 0 (fun i hi => absurd hi (by omega)) (.inr ⟨R, hR, ?_⟩)
    rw [rayAt_east, show kto + 1 + 0 = rto by omega]
    exact castled_rto b r kto rfrom rto K R hr12 (by omega)
  · refine noHit_of_block _ ac _ _ 2 (fun i hi => ?_) (.inl ?_)
    · obtain rfl | rfl : i = 0 ∨ i = 1 := by omega
      · rw [rayAt_west _ _ _ _ (by omega), castled_other b r kto rfrom rto K R _ (by omega) (by omega) (by omega) (by omega)]
        exact hb
      · rw [rayAt_west _ _ _ _ (by omega), show kto - 1 - 1 = rfrom by omega]
        exact castled_rfrom b r kto rfrom rto K R hr12 (by omega) (by omega)
    · rw [rayAt_west _ _ _ _ (by omega), castled_other b r kto rfrom rto K R _ (by omega) (by omega) (by omega) (by omega)]
      exact get_offboard b hr r _ fun ob => by have := ob.2.2.1; simp only at this; omega

def emptyCols : CastlingType → List Nat
  | .wks => [7, 8] | .wqs => [3, 4, 5] | .bks => [7, 8] | .bqs => [3, 4, 5]

theorem castled_safe (b : Board) (hr : RingOK b) (ct : CastlingType) (r : Nat) (hr12 : r < 12) (hr1 : 1 ≤ r) (K R : Piece)
    (ac : Color) (hR : R.color ≠ ac) (ak : Point) (hE : ∀ k ∈ emptyCols ct, b.get r k = .empty) :
    AttackedM (castled b r (kTo ct) (rFrom ct) (rTo ct) K R) ac ⟨r, kTo ct⟩ ak → AttackedM b ac ⟨r, kTo ct⟩ ak := by
  cases ct
  · exact castled_safe_kingside b hr r _ _ _ hr12 hr1 rfl rfl rfl K R ac hR ak
  · exact castled_safe_queenside b hr r _ _ _ hr12 hr1 rfl rfl rfl K R ac hR ak (hE 3 (by decide))
  · exact castled_safe_kingside b hr r _ _ _ hr12 hr1 rfl rfl rfl K R ac hR ak
  · exact castled_safe_queenside b hr r _ _ _ hr12 hr1 rfl rfl rfl K R ac hR ak (hE 3 (by decide))

theorem castled_kings (p q : Pos) (hko : KingsOK p) (c : Color) (r kto rfrom rto : Nat) (cc : CCols kto rfrom rto)
    (hrow : 2 ≤ r ∧ r ≤ 9)
    (hkp : kingPt p c = ⟨r, kFrom⟩) (hrk : p.board.get r rfrom = .full ⟨c, .rook⟩)
    (he1 : p.board.get r kto = .empty) (he2 : p.board.get r rto = .empty)
    (hqb : q.board = castled p.board r kto rfrom rto ⟨c, .king⟩ ⟨c, .rook⟩)
    (hqk : ∀ c', kingPt q c' = if c' = c then ⟨r, kto⟩ else kingPt p c') : KingsOK q := by
  rw [kingsOK_iff] at hko ⊢
  have hK : p.board.get r kFrom = .full ⟨c, .king⟩ := (hkp ▸ hko c).get
  have hcc : Square.full ⟨c, .king⟩ ≠ .full ⟨c.opp, .king⟩ := by simp [(Color.opp_ne c).symm]
  intro c'
  obtain rfl | rfl : c' = c ∨ c' = c.opp := by cases c <;> cases c' <;> simp [Color.opp]
  · rw [hqk, if_pos rfl, hqb]
    exact ((((hko c').remove (by nofun) hK).place ⟨hrow.1, hrow.2, cc.kto_on⟩).set_other (by nofun) (cc.rfrom_ne_kto ·.2)).set_other
      (by simp) (cc.rto_ne_kto ·.2)
  · have ho := hko c.opp
    rw [hqk, if_neg (Color.opp_ne c), hqb]
    exact (((ho.set_other (by nofun) (ho.ne (hK ▸ hcc))).set_other hcc (ho.ne (by simp [he1]))).set_other (by nofun)
      (ho.ne (by simp [hrk]))).set_other (by simp) (ho.ne (by simp [he2]))

theorem isCheckCords_eq_attacked (p : Pos) (wf : WFp p) (c : Color) (t : Spec.Sq) (ht : InB t)
    (hempty : p.board.get (toPt t).row (toPt t).col = .empty) :
    isCheckCords p c (toPt t) = Spec.attacked (abs p) c.opp t := by
  obtain ⟨hk, hu⟩ := wf.kings c.opp
  have hne : kingPt p c.opp ≠ toPt t := by
    intro e; rw [e, hempty] at hk; cases hk
  rw [Bool.eq_iff_iff, isCheckCords_iff_kingPt p wf.ring c (toPt t) (toPt_onBoard t ht),
    attacked_iff_AttackedM p wf.ring wf.inner c.opp t ht (kingPt p c.opp) hk hu hne]

theorem canCastle_iff (p : Pos) (ct : CastlingType) :
    canCastle p ct = true ↔
      p.right ct = true ∧ (∀ k ∈ emptyCols ct, p.board.get (homeRow (rightColor ct)) k = .empty) ∧
      isCheck p (rightColor ct) = false ∧ isCheckCords p (rightColor ct) ⟨homeRow (rightColor ct), rTo ct⟩ = false ∧
      isCheckCords p (rightColor ct) ⟨homeRow (rightColor ct), kTo ct⟩ = false := by
  cases ct <;>
    simp only [canCastle, emptyCols, Pos.right, rightColor, homeRow, rTo, kTo, isEmpty_iff, and_assoc, Bool.and_eq_true,
      Bool.not_eq_true', List.mem_cons, List.mem_nil_iff, or_false, forall_eq_or_imp, forall_eq]
  -- unfolded, three of the four are the same conjunction on both sides and closed; `can_castle_black_queen_side`
  -- is left: it probes the two squares in the other order (`f`, `g`)
  exact ⟨fun ⟨a, b, c, d, e, f, g⟩ => ⟨a, b, c, d, e, g, f⟩, fun ⟨a, b, c, d, e, g, f⟩ => ⟨a, b, c, d, e, f, g⟩⟩

theorem canCastle_false_of_adjacent_king (p : Pos) (ct : CastlingType) (k : Nat) (hk : k = rTo ct ∨ k = kTo ct)
    (hadj : (((kingPt p (rightColor ct).opp).row : Int) - homeRow (rightColor ct)).natAbs ≤ 1 ∧
      (((kingPt p (rightColor ct).opp).col : Int) - k).natAbs ≤ 1) : canCastle p ct = false := by
  refine Bool.eq_false_iff.mpr fun hc => ?_
  obtain ⟨-, -, -, hR, hK⟩ := (canCastle_iff p ct).mp hc
  have hit := probe_hit p (rightColor ct) ⟨homeRow (rightColor ct), k⟩ (.inr (.inr hadj))
  rcases hk with rfl | rfl
  · rw [hit] at hR; cases hR
  · rw [hit] at hK; cases hK

theorem emptyCols_mem (ct : CastlingType) :
    rTo ct ∈ emptyCols ct ∧ kTo ct ∈ emptyCols ct ∧ ∀ k ∈ emptyCols ct, 2 ≤ k ∧ k ≤ 9 := by
  cases ct <;> decide

theorem castleCond_iff (P : Spec.Position) (ct : CastlingType) (hside : P.side = rightColor ct) :
    castleCond P (castleMove ct) = true ↔
      P.right ct = true ∧ P.at (cornerSq ct) = some ⟨rightColor ct, .rook⟩ ∧
      (∀ k ∈ emptyCols ct, P.at (specOf ⟨homeRow (rightColor ct), k⟩) = none) ∧
      ∀ k ∈ [kFrom, rTo ct, kTo ct], Spec.attacked P (rightColor ct).opp (specOf ⟨homeRow (rightColor ct), k⟩) = false := by
  -- four closed instances: with the tables unfolded both sides are the same conjunction up to `Bool`/`Prop` and order
  cases ct <;> simp only [rightColor] at hside <;>
    simp [castleCond, castleMove, hside, emptyCols, rightColor, cornerSq, Spec.homeRank, Spec.Position.right, homeRow,
      specOf, kFrom, rTo, kTo, Color.opp, and_assoc]

theorem canCastle_iff_castleCond (p : Pos) (wf : WFp p) (ct : CastlingType) (hside : p.toMove = rightColor ct)
    (hK : (abs p).at ⟨4, Spec.homeRank (rightColor ct)⟩ = some ⟨rightColor ct, .king⟩) :
    canCastle p ct = true ↔ castleCond (abs p) (castleMove ct) = true := by
  have hrow := homeRow_bounds (rightColor ct)
  obtain ⟨mR, mK, mB⟩ := emptyCols_mem ct
  have ob : ∀ k ∈ emptyCols ct, OnBoard ⟨homeRow (rightColor ct), k⟩ := fun k hk =>
    ⟨hrow.1, hrow.2, (mB k hk).1, (mB k hk).2⟩
  have hkp : kingPt p (rightColor ct) = ⟨homeRow (rightColor ct), kFrom⟩ := by
    have gK := get_of_at p _ (by cases ct <;> decide) _ hK
    rw [(castle_squares ct).2.1] at gK
    exact ((wf.kings _).2 _ _ gK).symm
  have hemp : ∀ k ∈ emptyCols ct, ((abs p).at (specOf ⟨homeRow (rightColor ct), k⟩) = none ↔
      p.board.get (homeRow (rightColor ct)) k = .empty) := fun k hk => by
    rw [← Option.isNone_iff_eq_none, isNone_at_specOf p wf.inner _ (ob k hk), isEmpty_iff]
  have probe : ∀ k ∈ emptyCols ct, p.board.get (homeRow (rightColor ct)) k = .empty →
      (isCheckCords p (rightColor ct) ⟨homeRow (rightColor ct), k⟩ = false ↔
        Spec.attacked (abs p) (rightColor ct).opp (specOf ⟨homeRow (rightColor ct), k⟩) = false) := fun k hk he => by
    have e := isCheckCords_eq_attacked p wf (rightColor ct) _ (specOf_inB _ (ob k hk))
    rw [toPt_specOf _ (ob k hk)] at e
    rw [e he]
  have hchk : isCheck p (rightColor ct) = false ↔
      Spec.attacked (abs p) (rightColor ct).opp (specOf ⟨homeRow (rightColor ct), kFrom⟩) = false := by
    rw [← hkp, ← inCheck_eq_attacked p wf.ring wf.kings, ← isCheck_eq_inCheck p wf.ring wf.inner wf.kings]
  rw [canCastle_iff, castleCond_iff _ ct hside, abs_right_ct]
  simp only [List.mem_cons, List.mem_nil_iff, or_false, forall_eq_or_imp, forall_eq]
  constructor
  · rintro ⟨hr, hE, hc, hR, hK'⟩
    exact ⟨hr, (wf.lp.right ct ((abs_right_ct p ct).trans hr)).2, fun k hk => (hemp k hk).mpr (hE k hk), hchk.mp hc,
      (probe _ mR (hE _ mR)).mp hR, (probe _ mK (hE _ mK)).mp hK'⟩
  · rintro ⟨hr, -, hE, hc, hR, hK'⟩
    have hE' := fun k hk => (hemp k hk).mp (hE k hk)
    exact ⟨hr, hE', hchk.mpr hc, (probe _ mR (hE' _ mR)).mpr hR, (probe _ mK (hE' _ mK)).mpr hK'⟩

variable (h : Hasher)

theorem castleSucc_wf (p : Pos) (wf : WFp p) (ct : CastlingType) (hcan : canCastle p ct = true) :
    RingOK (castleSucc h p ct).board ∧ InnerOK (castleSucc h p ct).board ∧ KingsOK (castleSucc h p ct) := by
  obtain ⟨hright, hE, -⟩ := (canCastle_iff p ct).mp hcan
  obtain ⟨gK, gR, hkp⟩ := right_mailbox p wf.lp wf.kings ct hright
  obtain ⟨sb, sk⟩ := castleSucc_shape h p ct hkp gK gR
  obtain ⟨mR, mK, -⟩ := emptyCols_mem ct
  have hrow := homeRow_bounds (rightColor ct)
  refine ⟨?_, ?_, castled_kings p _ wf.kings _ _ _ _ _ (cCols ct) hrow hkp gR (hE _ mK) (hE _ mR) sb sk⟩
  · rw [sb]; exact castled_ring _ wf.ring _ _ _ _ _ _ (cCols ct) hrow
  · rw [sb]; exact castled_inner _ wf.inner _ _ _ _ _ _

theorem castle_sound (p : Pos) (wf : WFp p) (ct : CastlingType) (hside : p.toMove = rightColor ct)
    (hcan : canCastle p ct = true) :
    Spec.legal (abs p) (castleMove ct) = true ∧
    abs (castleSucc h p ct) = Spec.apply (abs p) (castleMove ct) := by
  obtain ⟨hright, hE, -, -, hnK⟩ := (canCastle_iff p ct).mp hcan
  obtain ⟨hic, habs⟩ := castle_abs h p wf.lp wf.kings ct hside hright
  obtain ⟨gK, gR, hkp⟩ := right_mailbox p wf.lp wf.kings ct hright
  obtain ⟨sb, sk⟩ := castleSucc_shape h p ct hkp gK gR
  obtain ⟨hr1, hi1, hk1⟩ := castleSucc_wf h p wf ct hcan
  have hrow := homeRow_bounds (rightColor ct)
  have ob : OnBoard ⟨homeRow (rightColor ct), kTo ct⟩ := ⟨hrow.1, hrow.2, (cCols ct).kto_on.1, (cCols ct).kto_on.2⟩
  obtain ⟨hK, -⟩ := wf.lp.right ct ((abs_right_ct p ct).trans hright)
  have hps : Spec.pseudoLegal (abs p) (castleMove ct) = true :=
    pseudoLegal_of_castle _ _ (by cases ct <;> rfl) hic ((canCastle_iff_castleCond p wf ct hside hK).mp hcan)
  -- the king's new square was probed before the move; the move opens no line onto it
  have hsafe : isCheck (castleSucc h p ct) (rightColor ct) = false := by
    -- left: `is_check` afterwards is the probe of the king's new square `(homeRow, kTo)` on the castled board (`sk`,
    -- `sb`); right: `hnK`, the probe of that square before the move; both as `AttackedM`, the attacker's king unmoved
    rw [isCheck_eq_cords, sk, if_pos rfl, ← hnK, Bool.eq_iff_iff, isCheckCords_iff_kingPt _ hr1 _ _ ob,
      isCheckCords_iff_kingPt p wf.ring _ _ ob, sb, sk, if_neg (Color.opp_ne _)]
    refine ⟨castled_safe p.board wf.ring ct _ (by omega) (by omega) _ ⟨rightColor ct, .rook⟩ _ (Color.opp_ne _).symm _ hE,
      fun hx => ?_⟩
    rw [(isCheckCords_iff_kingPt p wf.ring _ _ ob).mpr hx] at hnK; cases hnK
  refine ⟨(legal_iff _ _).mpr ⟨hps, ?_⟩, habs⟩
  rw [← habs, ← isCheck_eq_inCheck _ hr1 hi1 hk1, abs_side, hside, hsafe]

end Walleye
