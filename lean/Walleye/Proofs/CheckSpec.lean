/-
  C06 bridge: the mailbox attack relation `AttackedM` (what `is_check_cords` decides, Proofs/Check)
  is the specification's `Spec.attacked` on the abstracted 8x8 position (`attacked_iff_AttackedM`), hence
  `is_check` is `Spec.inCheck` (`isCheck_eq_inCheck`).  At the end, what `Spec.inCheck` reads of a position: the
  cells only (`inCheck_congr`), and of the defender's own pieces only which one is the king (`SameForCheck`).
-/
import Walleye.Proofs.AbsOps
namespace Walleye

/-- `ray_iff` read from the far end -/
theorem line_iff (p : Pos) (hr : RingOK p.board) (hi : InnerOK p.board) (t : Spec.Sq) (ht : InB t)
    (dirs : List (Int × Int)) (shape : Nat → Nat → Bool) (hs : Rays dirs shape)
    (Q : Square → Prop) (hQ : ∀ sq, Q sq → sq ≠ .boundary) :
    (∃ s, InB s ∧ Q (p.board.get (toPt s).row (toPt s).col) ∧
      shape (Spec.iabs ((t.file : Int) - s.file)) (Spec.iabs ((t.rank : Int) - s.rank)) = true ∧
      Spec.clearBetween (abs p) s t = true) ↔
    ∃ d ∈ dirs, ∃ n : Nat, (∀ i : Nat, i < n → (rayAt p.board (toPt t) d i).isEmpty = true) ∧
      Q (rayAt p.board (toPt t) d n) := by
  have key := ray_iff p hr hi t ht dirs shape hs Q hQ
  constructor
  · rintro ⟨s, hin, hq, hsh, hc⟩
    rw [iabs_sub_comm, iabs_sub_comm (t.rank : Int)] at hsh
    obtain ⟨d, hd, n, -, he, hq⟩ :=
      (key (toPt s)).mpr ⟨s, hin, rfl, hsh, by rw [hs.clear_symm _ _ _ hsh]; exact hc, hq⟩
    exact ⟨d, hd, n, he, hq⟩
  · rintro ⟨d, hd, n, he, hq⟩
    obtain ⟨s, hin, e, hsh, hc, hq⟩ := (key _).mp ⟨d, hd, n, rfl, he, hq⟩
    refine ⟨s, hin, e ▸ hq, ?_, by rw [← hs.clear_symm _ _ _ hsh]; exact hc⟩
    rw [iabs_sub_comm, iabs_sub_comm (t.rank : Int)]; exact hsh

theorem attacked_of (P : Spec.Position) (c : Color) (s t : Spec.Sq) (pc : Piece) (hs : InB s) (hat : P.at s = some pc)
    (hc : pc.color = c) (ha : Spec.attacksFrom P s pc t = true) : Spec.attacked P c t = true := by
  unfold Spec.attacked
  rw [List.any_eq_true]
  refine ⟨s, (mem_allSquares s).mpr hs, ?_⟩
  rw [hat]; simp [hc, ha]

/-- `Spec.attacked` split by the kind of the attacker, with the attacker read off the mailbox -/
def AttackedByKind (p : Pos) (ac : Color) (t : Spec.Sq) (k : Kind) : Prop :=
  ∃ s, InB s ∧ p.board.get (toPt s).row (toPt s).col = .full ⟨ac, k⟩ ∧
    Spec.attacksFrom (abs p) s ⟨ac, k⟩ t = true

theorem attacked_iff_attackedByKind (p : Pos) (ac : Color) (t : Spec.Sq) :
    Spec.attacked (abs p) ac t = true ↔ ∃ k, AttackedByKind p ac t k := by
  constructor
  · unfold Spec.attacked AttackedByKind
    rw [List.any_eq_true]
    rintro ⟨s, hs, h⟩
    have hs' := (mem_allSquares s).mp hs
    rw [abs_at p s hs'] at h
    cases hsq : p.board.get (toPt s).row (toPt s).col with
    | empty => rw [hsq] at h; simp [squareToOpt] at h
    | boundary => rw [hsq] at h; simp [squareToOpt] at h
    | full pc =>
      rw [hsq] at h
      simp only [squareToOpt, Bool.and_eq_true, beq_iff_eq] at h
      obtain ⟨hc, ha⟩ := h
      cases pc with
      | mk c k =>
        simp only at hc; subst hc
        exact ⟨k, s, hs', hsq, ha⟩
  · rintro ⟨k, s, hs, hfull, ha⟩
    exact attacked_of _ ac s t _ hs (at_of_get p s hs _ hfull) rfl ha

theorem lineAttack_ne_boundary (ac : Color) (k : Kind) (sq : Square) (h : sq = .full ⟨ac, k⟩ ∨ sq = .full ⟨ac, .queen⟩) :
    sq ≠ .boundary := by
  rcases h with h | h <;> rw [h] <;> simp

/-- the specification sorts the attackers on lines by their kind, `is_check_cords` by the kind of line: a queen
    is found on either -/
theorem attackedByKind_lines (p : Pos) (hr : RingOK p.board) (hi : InnerOK p.board) (ac : Color) (t : Spec.Sq) (ht : InB t) :
    (AttackedByKind p ac t .rook ∨ AttackedByKind p ac t .bishop ∨ AttackedByKind p ac t .queen) ↔
      LineAttack p.board ac Gen.checkRookDirs .rook (toPt t) ∨ LineAttack p.board ac Gen.checkBishopDirs .bishop (toPt t) := by
  unfold LineAttack
  rw [← line_iff p hr hi t ht _ rookShape rook_rays _ (lineAttack_ne_boundary ac .rook),
    ← line_iff p hr hi t ht _ bishopShape bishop_rays _ (lineAttack_ne_boundary ac .bishop)]
  unfold AttackedByKind
  simp only [attacksFrom_queen, attacksFrom_rook, attacksFrom_bishop, Bool.and_eq_true, Bool.or_eq_true]
  constructor
  · rintro (⟨s, h1, h2, h3⟩ | ⟨s, h1, h2, h3⟩ | ⟨s, h1, h2, h3 | h3⟩)
    · exact .inl ⟨s, h1, .inl h2, h3⟩
    · exact .inr ⟨s, h1, .inl h2, h3⟩
    · exact .inr ⟨s, h1, .inr h2, h3⟩
    · exact .inl ⟨s, h1, .inr h2, h3⟩
  · rintro (⟨s, h1, h2 | h2, h3⟩ | ⟨s, h1, h2 | h2, h3⟩)
    · exact .inl ⟨s, h1, h2, h3⟩
    · exact .inr (.inr ⟨s, h1, h2, .inr h3⟩)
    · exact .inr (.inl ⟨s, h1, h2, h3⟩)
    · exact .inr (.inr ⟨s, h1, h2, .inl h3⟩)

theorem attackedByKind_knight (p : Pos) (hr : RingOK p.board) (ac : Color) (t : Spec.Sq) (ht : InB t) :
    AttackedByKind p ac t .knight ↔ ∃ rc ∈ Gen.knightCords,
      p.board.getI (((toPt t).row : Int) + rc.1) (((toPt t).col : Int) + rc.2) = .full ⟨ac, .knight⟩ := by
  rw [probe_any p.board hr t ht _ (· = .full ⟨ac, .knight⟩) (fun sq h => by rw [h]; simp)]
  unfold AttackedByKind
  simp only [attacksFrom_knight, knightShape, Spec.iabs, Bool.or_eq_true, Bool.and_eq_true, beq_iff_eq, mem_knightCords]
  refine exists_congr fun s => and_congr_right fun _ => ?_
  rw [and_comm, ← Int.natAbs_neg ((s.file : Int) - t.file), Int.neg_sub]

/-- the two `usize` probes of the pawn test are the signed probes one row towards the attacker's side -/
theorem attackedByKind_pawn (p : Pos) (hr : RingOK p.board) (ac : Color) (t : Spec.Sq) (ht : InB t) :
    AttackedByKind p ac t .pawn ↔
      (p.board.get (attackerPawnRow ac (toPt t).row) ((toPt t).col - 1) = .full ⟨ac, .pawn⟩ ∨
       p.board.get (attackerPawnRow ac (toPt t).row) ((toPt t).col + 1) = .full ⟨ac, .pawn⟩) := by
  have hto := toPt_onBoard t ht
  unfold OnBoard at hto
  have er : ((attackerPawnRow ac (toPt t).row : Nat) : Int) = (toPt t).row + Spec.fwd ac := by
    unfold attackerPawnRow Spec.fwd; cases ac <;> simp only <;> omega
  rw [get_eq_getI _ _ _ _ _ er (show (((toPt t).col - 1 : Nat) : Int) = (toPt t).col + -1 by omega),
    get_eq_getI _ _ _ _ _ er (show (((toPt t).col + 1 : Nat) : Int) = (toPt t).col + 1 by omega)]
  have key := probe_any p.board hr t ht [(Spec.fwd ac, -1), (Spec.fwd ac, 1)] (· = .full ⟨ac, .pawn⟩)
    (fun sq h => by rw [h]; simp)
  simp only [List.mem_cons, List.mem_nil_iff, or_false, exists_eq_or_imp, exists_eq_left, Prod.mk.injEq] at key
  rw [key]
  unfold AttackedByKind
  simp only [attacksFrom_pawn]
  refine exists_congr fun s => and_congr_right fun _ => ?_
  rw [and_comm]
  refine and_congr_left' ?_
  cases ac <;> simp only [Spec.fwd, Int.natAbs_eq_iff] <;> omega

theorem attackedByKind_king (p : Pos) (hr : RingOK p.board) (ac : Color) (t : Spec.Sq) (ht : InB t) (ak : Point)
    (hk : p.board.get ak.row ak.col = .full ⟨ac, .king⟩)
    (huniq : ∀ r c, p.board.get r c = .full ⟨ac, .king⟩ → (⟨r, c⟩ : Point) = ak)
    (hne : ak ≠ toPt t) :
    AttackedByKind p ac t .king ↔
      (((ak.row : Int) - (toPt t).row).natAbs ≤ 1 ∧ ((ak.col : Int) - (toPt t).col).natAbs ≤ 1) := by
  have hob : OnBoard ak := hr _ _ (by rw [hk]; simp)
  rw [kingStep_iff t ht ak hob hne, iabs_sub_comm, iabs_sub_comm ((specOf ak).rank : Int)]
  unfold AttackedByKind
  simp only [attacksFrom_king, beq_iff_eq]
  constructor
  · rintro ⟨s, hs, hfull, ha⟩
    rw [← huniq _ _ hfull, specOf_toPt s hs]; exact ha
  · intro h
    exact ⟨specOf ak, specOf_inB _ hob, by rw [toPt_specOf _ hob]; exact hk, h⟩

theorem attacked_iff_AttackedM (p : Pos) (hr : RingOK p.board) (hi : InnerOK p.board) (ac : Color)
    (t : Spec.Sq) (ht : InB t) (ak : Point)
    (hk : p.board.get ak.row ak.col = .full ⟨ac, .king⟩)
    (huniq : ∀ r c, p.board.get r c = .full ⟨ac, .king⟩ → (⟨r, c⟩ : Point) = ak)
    (hne : ak ≠ toPt t) :
    Spec.attacked (abs p) ac t = true ↔ AttackedM p.board ac (toPt t) ak := by
  rw [attacked_iff_attackedByKind]
  unfold AttackedM
  rw [← or_assoc, ← attackedByKind_lines p hr hi ac t ht, ← attackedByKind_knight p hr ac t ht, ← attackedByKind_pawn p hr ac t ht,
    ← attackedByKind_king p hr ac t ht ak hk huniq hne]
  constructor
  · rintro ⟨k, h⟩
    cases k with
    | pawn => exact .inr (.inr (.inl h))
    | knight => exact .inr (.inl h)
    | king => exact .inr (.inr (.inr h))
    | rook => exact .inl (.inl h)
    | bishop => exact .inl (.inr (.inl h))
    | queen => exact .inl (.inr (.inr h))
  · rintro ((h | h | h) | h | h | h) <;> exact ⟨_, h⟩

theorem kingSquares_eq (q : Pos) (hr : RingOK q.board) (hk : KingsOK q) (c : Color) :
    Spec.kingSquares (abs q) c = [specOf (kingPt q c)] := by
  obtain ⟨hfull, hu⟩ := hk c
  have hob : OnBoard (kingPt q c) := hr (kingPt q c).row (kingPt q c).col (by rw [hfull]; simp)
  unfold Spec.kingSquares
  apply filter_eq_singleton _ _ allSquares_nodup (specOf (kingPt q c)) ((mem_allSquares _).mpr (specOf_inB _ hob))
  · rw [at_specOf q _ hob, hfull]; simp [squareToOpt]
  · intro y hy hfy
    have hin := (mem_allSquares y).mp hy
    have : (abs q).at y = some ⟨c, .king⟩ := by simpa using hfy
    have hg := get_of_at q y hin _ this
    have := hu _ _ hg
    rw [← this]
    exact (specOf_toPt y hin).symm

theorem inCheck_eq_attacked (p : Pos) (hr : RingOK p.board) (hk : KingsOK p) (c : Color) :
    Spec.inCheck (abs p) c = Spec.attacked (abs p) c.opp (specOf (kingPt p c)) := by
  unfold Spec.inCheck
  rw [kingSquares_eq p hr hk c, List.any_cons, List.any_nil, Bool.or_false]

/-- C06: for every mailbox with the sentinel ring in place, no sentinel inside, and the king caches
    pointing at the one king of each side, `is_check` is the specification's `inCheck` -/
theorem isCheck_eq_inCheck (p : Pos) (hr : RingOK p.board) (hi : InnerOK p.board) (hk : KingsOK p) (c : Color) :
    isCheck p c = Spec.inCheck (abs p) c := by
  rw [inCheck_eq_attacked p hr hk c, Bool.eq_iff_iff]
  obtain ⟨hfull, _⟩ := hk c
  obtain ⟨hfull', huniq'⟩ := hk c.opp
  have hob : OnBoard (kingPt p c) := hr (kingPt p c).row (kingPt p c).col (by rw [hfull]; simp)
  have hne : kingPt p c.opp ≠ toPt (specOf (kingPt p c)) := by
    rw [toPt_specOf _ hob]
    intro e
    rw [e, hfull] at hfull'
    cases c <;> cases hfull'
  rw [attacked_iff_AttackedM p hr hi c.opp _ (specOf_inB _ hob) (kingPt p c.opp) hfull' huniq' hne,
    toPt_specOf _ hob]
  have h := isCheckCords_iff_kingPt p hr c (kingPt p c) hob
  cases c <;> exact h

def SameForCheck (c : Color) (P Q : Spec.Position) : Prop :=
  ∀ s, ((P.at s).isNone = (Q.at s).isNone) ∧
    (∀ pc : Piece, pc.color = c.opp → (P.at s = some pc ↔ Q.at s = some pc)) ∧
    (P.at s = some ⟨c, .king⟩ ↔ Q.at s = some ⟨c, .king⟩)

theorem clearBetween_same (c : Color) (P Q : Spec.Position) (h : SameForCheck c P Q) (s t : Spec.Sq) :
    Spec.clearBetween P s t = Spec.clearBetween Q s t := by
  unfold Spec.clearBetween
  simp only [(h _).1]

theorem attacksFrom_same (c : Color) (P Q : Spec.Position) (h : SameForCheck c P Q) (s : Spec.Sq) (pc : Piece) (t : Spec.Sq) :
    Spec.attacksFrom P s pc t = Spec.attacksFrom Q s pc t := by
  unfold Spec.attacksFrom; simp only [clearBetween_same c P Q h]

theorem SameForCheck.symm {c : Color} {P Q : Spec.Position} (h : SameForCheck c P Q) : SameForCheck c Q P :=
  fun s => ⟨(h s).1.symm, fun pc hpc => ((h s).2.1 pc hpc).symm, (h s).2.2.symm⟩

theorem attacked_same (c : Color) (P Q : Spec.Position) (h : SameForCheck c P Q) (t : Spec.Sq) :
    Spec.attacked P c.opp t = Spec.attacked Q c.opp t := by
  have imp : ∀ P Q, SameForCheck c P Q → Spec.attacked P c.opp t = true → Spec.attacked Q c.opp t = true := by
    intro P Q h hx
    unfold Spec.attacked at hx ⊢
    rw [List.any_eq_true] at hx ⊢
    obtain ⟨s, hs, hx⟩ := hx
    refine ⟨s, hs, ?_⟩
    cases hp : P.at s with
    | none => rw [hp] at hx; cases hx
    | some pc =>
      rw [hp] at hx
      simp only [Bool.and_eq_true, beq_iff_eq] at hx
      rw [((h s).2.1 pc hx.1).mp hp]
      simp only [Bool.and_eq_true, beq_iff_eq]
      exact ⟨hx.1, by rw [← attacksFrom_same c P Q h]; exact hx.2⟩
  exact Bool.eq_iff_iff.mpr ⟨imp P Q h, imp Q P h.symm⟩

theorem inCheck_same (c : Color) (P Q : Spec.Position) (h : SameForCheck c P Q) :
    Spec.inCheck P c = Spec.inCheck Q c := by
  have imp : ∀ P Q, SameForCheck c P Q → Spec.inCheck P c = true → Spec.inCheck Q c = true := by
    intro P Q h hx
    unfold Spec.inCheck Spec.kingSquares at hx ⊢
    rw [List.any_eq_true] at hx ⊢
    obtain ⟨k, hk, hx⟩ := hx
    rw [List.mem_filter] at hk
    refine ⟨k, ?_, by rw [← attacked_same c P Q h]; exact hx⟩
    rw [List.mem_filter]
    exact ⟨hk.1, by simpa using (h k).2.2.mp (by simpa using hk.2)⟩
  exact Bool.eq_iff_iff.mpr ⟨imp P Q h, imp Q P h.symm⟩

theorem inCheck_congr (P Q : Spec.Position) (h : P.cells = Q.cells) (c : Color) :
    Spec.inCheck P c = Spec.inCheck Q c :=
  inCheck_same c P Q fun s => by rw [at_congr P Q h s]; exact ⟨rfl, fun _ _ => .rfl, .rfl⟩

theorem sameForCheck_put (c : Color) (X : Spec.Position) (hsz : X.cells.size = 64) (t : Spec.Sq) (ht : InB t)
    (k1 k2 : Kind) (h1 : k1 ≠ .king) (h2 : k2 ≠ .king) :
    SameForCheck c (X.put t (some ⟨c, k1⟩)) (X.put t (some ⟨c, k2⟩)) := by
  intro s
  rw [at_put X hsz t s _ ht, at_put X hsz t s _ ht]
  by_cases e : s = t
  · simp only [e, if_true, Option.isNone_some, true_and]
    constructor
    · intro pc hpc
      constructor <;> intro hx <;> (injection hx with hx; rw [← hx] at hpc; exact absurd hpc (Color.opp_ne c).symm)
    · constructor <;> intro hx <;> injection hx with hx <;> injection hx with _ hk
      · exact absurd hk h1
      · exact absurd hk h2
  · rw [if_neg e, if_neg e]
    exact ⟨rfl, fun _ _ => Iff.rfl, Iff.rfl⟩

end Walleye
