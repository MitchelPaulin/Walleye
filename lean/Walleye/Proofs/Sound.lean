/-
  C01 soundness and C02 together: every successor the generator pushes for an ordinary target
  carries a legal move of the specification and is `Spec.apply` of it.  What decides about one target
  is said as two equivalences, which completeness (Proofs/Complete) reads the other way: the last
  stage realises the promotion flag of the rules (`st4_flags`), and with that flag the move is legal
  iff the king-safety test passes (`legal_iff_safe`).
-/
import Walleye.Proofs.PseudoLegal
import Walleye.Proofs.KingsPres
namespace Walleye

variable (h : Hasher)

theorem no_king_capture (p : Pos) (wf : WFp p) (o : Spec.Sq) (ho : InB o) (pc : Piece)
    (hpc : p.board.get (toPt o).row (toPt o).col = .full pc) (hcol : pc.color = p.toMove) (mov : Point) (hm : OnBoard mov)
    (hrule : normalRule (abs p) o pc (specOf mov) = true) :
    ∀ c, p.board.get mov.row mov.col ≠ .full ⟨c, .king⟩ := fun c hk =>
  spec_no_king_capture (abs p) wf.lp o (specOf mov) ho (specOf_inB mov hm) pc (at_of_get p o ho _ hpc) hcol hrule c
    (by rw [at_specOf p mov hm, hk]; rfl)

theorem promotePawn_flags (nb : Pos) (c : Color) (sq mov : Point) (pr : Option Kind) :
    (∃ q ∈ promotePawn h nb c sq mov, q.lastMove = some (sq, mov) ∧ q.promo = pr.map (⟨c, ·⟩)) ↔
      ∃ k, pr = some k ∧ k ∈ Spec.promoKinds := by
  constructor
  · rintro ⟨q, hq, _, hpq⟩
    obtain ⟨kind, hkind, rfl⟩ := (mem_promotePawn_iff h nb c sq mov q).mp hq
    cases pr with
    | none => cases hpq
    | some k =>
      injection hpq with hpq; injection hpq with _ hpq
      exact ⟨k, rfl, hpq ▸ (mem_promotionOrder kind).mp hkind⟩
  · rintro ⟨k, rfl, hk⟩
    exact ⟨_, (mem_promotePawn_iff h nb c sq mov _).mpr ⟨k, (mem_promotionOrder k).mpr hk, rfl⟩, rfl, rfl⟩

theorem st4_flags (pc : Piece) (sq mov : Point) (hm : OnBoard mov) (nb : Pos)
    (hl : nb.lastMove = some (sq, mov)) (hp : nb.promo = none) (pr : Option Kind) :
    (∃ q ∈ st4 h pc sq mov nb, q.lastMove = some (sq, mov) ∧ q.promo = pr.map (⟨pc.color, ·⟩)) ↔
      promoOK pc.color pc (specOf mov) pr = true := by
  rw [promoOK_iff, st4_eq_lastRank h _ _ _ _ hm]
  split
  · exact promotePawn_flags h nb pc.color sq mov pr
  · simp only [List.mem_singleton, exists_eq_left, hl, hp, true_and]
    cases pr <;> simp

theorem legal_iff_safe (p : Pos) (wf : WFp p) (o : Spec.Sq) (ho : InB o) (pc : Piece)
    (hpc : p.board.get (toPt o).row (toPt o).col = .full pc) (hcol : pc.color = p.toMove) (mov : Point) (hm : OnBoard mov)
    (hrule : normalRule (abs p) o pc (specOf mov) = true) (pr : Option Kind)
    (hpo : promoOK (abs p).side pc (specOf mov) pr = true) :
    Spec.legal (abs p) ⟨o, specOf mov, pr⟩ = true ↔ isCheck (st1 h pc p (toPt o) mov) pc.color = false := by
  rw [legal_iff, filter_normal h p wf.ring wf.inner wf.kings o ho pc hpc hcol mov hm hrule
    (no_king_capture p wf o ho pc hpc hcol mov hm hrule) pr fun k e => promoOK_some (e ▸ hpo)]
  exact and_iff_right ((pseudoLegal_iff _ ⟨o, specOf mov, pr⟩).mpr
    ⟨ho, specOf_inB mov hm, pc, at_of_get p o ho _ hpc, hcol, .inl ⟨hrule, hpo⟩⟩)

theorem succsForTarget_sound (p : Pos) (wf : WFp p) (o : Spec.Sq) (ho : InB o) (pc : Piece)
    (hpc : p.board.get (toPt o).row (toPt o).col = .full pc) (hcol : pc.color = p.toMove) (mov : Point)
    (hmov : mov ∈ getMoves pc (toPt o).row (toPt o).col p.board .all) :
    ∀ q ∈ succsForTarget h pc p (toPt o) mov,
      (moveOf q).src = o ∧ (moveOf q).dst = specOf mov ∧
      Spec.isEnPassant (abs p) (moveOf q) = false ∧ Spec.isCastle (abs p) (moveOf q) = false ∧
      Spec.legal (abs p) (moveOf q) = true ∧ abs q = Spec.apply (abs p) (moveOf q) := by
  intro q hq
  obtain ⟨hm, hrule⟩ := (getMoves_spec p wf.ring wf.inner o ho pc hpc mov).mp hmov
  have hsrc : (abs p).at o = some pc := at_of_get p o ho _ hpc
  have hR := rightsOK_of_LP p wf.lp
  rw [succsForTarget_eq] at hq
  split at hq
  · cases hq
  rename_i hchk
  have hdesc : ∃ pr, q.lastMove = some (toPt o, mov) ∧ q.promo = pr.map (⟨pc.color, ·⟩) ∧
      abs q = Spec.apply (abs p) ⟨o, specOf mov, pr⟩ := by
    rw [st4_eq_lastRank h _ _ _ _ hm] at hq
    split at hq
    · rename_i hp
      obtain ⟨c, k⟩ := pc
      obtain ⟨rfl, hlast⟩ : k = .pawn ∧ _ := hp
      obtain ⟨kind, -, hpro, hlm, habs⟩ := promo_succ_abs h p hR o ho c hpc hcol mov hm hrule hlast q hq
      exact ⟨some kind, hlm, hpro, habs⟩
    · rw [List.mem_singleton.mp hq]
      exact ⟨none, st123_lastMove h pc p _ mov, st123_promo h pc p _ mov, normal_succ_abs h p hR o ho pc hpc hcol mov hm hrule⟩
  obtain ⟨pr, hlm, hpro, habs⟩ := hdesc
  have hpo : promoOK (abs p).side pc (specOf mov) pr = true := by
    rw [abs_side, ← hcol]
    exact (st4_flags h pc (toPt o) mov hm _ (st123_lastMove h pc p _ mov) (st123_promo h pc p _ mov) pr).mp ⟨q, hq, hlm, hpro⟩
  have hmo : moveOf q = ⟨o, specOf mov, pr⟩ := by
    rw [moveOf_of q _ _ hlm, hpro, specOf_toPt o ho]; cases pr <;> rfl
  rw [hmo]
  exact ⟨rfl, rfl, not_ep hsrc hrule, not_castle hsrc hrule,
    (legal_iff_safe h p wf o ho pc hpc hcol mov hm hrule pr hpo).mpr (Bool.not_eq_true _ |>.mp hchk), habs⟩

end Walleye
