/-
  C01 / C13, "no move appears twice", part 2: the successors of one generation carry pairwise
  different moves.  Successors of different origin squares differ in the origin; of one origin and
  different targets in the target; the (at most four) successors of one target in the promotion
  piece; an en passant successor differs from every ordinary one (the SPEC classifies the moves
  differently), and castling successors from all others and from each other.
-/
import Walleye.Proofs.NoDupGeo
import Walleye.Proofs.GenSound
namespace Walleye

variable (h : Hasher)

theorem st4_nodup (piece : Piece) (sq mov : Point) (nb : Pos) :
    ((st4 h piece sq mov nb).map moveOf).Nodup := by
  have promo_case : ∀ c, ((promotePawn h nb c sq mov).map moveOf).Nodup := by
    intro c
    unfold promotePawn
    rw [List.map_map]
    refine List.Pairwise.map _ (fun a b hne e => hne ?_) promotionOrder_nodup
    have : (some a : Option Kind) = some b := congrArg Spec.Move.promo e
    exact Option.some.inj this
  rw [st4_eq_rows]
  split
  · exact promo_case _
  · simp

theorem succsForTarget_nodup (piece : Piece) (p : Pos) (sq mov : Point) :
    ((succsForTarget h piece p sq mov).map moveOf).Nodup := by
  rw [succsForTarget_eq]
  split
  · simp
  · apply st4_nodup

theorem epSuccs_nodup (piece : Piece) (p : Pos) (sq : Point) : ((epSuccs h piece p sq).map moveOf).Nodup := by
  rw [epSuccs_eq]
  split
  · split
    · simp
    · split <;> simp
  · simp

theorem forPiece_nodup (p : Pos) (wf : WFp p) (o : Spec.Sq) (ho : InB o) (pc : Piece)
    (hpc : p.board.get (toPt o).row (toPt o).col = .full pc) (hcol : pc.color = p.toMove) (mode : Mode) :
    ((generateMovesForPiece h pc p (toPt o) mode).map moveOf).Nodup ∧
    ∀ q ∈ generateMovesForPiece h pc p (toPt o) mode,
      (moveOf q).src = o ∧ Spec.isCastle (abs p) (moveOf q) = false := by
  have hall := getMoves_subset_all pc (toPt o).row (toPt o).col p.board mode
  have hon := getMoves_onBoard pc (toPt o).row (toPt o).col p.board mode wf.ring
  have hnd := getMoves_nodup pc (toPt o).row (toPt o).col p.board mode wf.ring (toPt_onBoard o ho)
  have hnormal : ((((getMoves pc (toPt o).row (toPt o).col p.board mode).flatMap
      (succsForTarget h pc p (toPt o)))).map moveOf).Nodup := by
    apply nodup_flatMap_map _ _ _ hnd
    · intro mov _; exact succsForTarget_nodup h pc p (toPt o) mov
    · intro mov hm mov' hm' q hq q' hq' e
      have c1 := succsForTarget_sound h p wf o ho pc hpc hcol mov (hall mov hm) q hq
      have c2 := succsForTarget_sound h p wf o ho pc hpc hcol mov' (hall mov' hm') q' hq'
      apply specOf_inj mov mov' (hon mov hm) (hon mov' hm')
      rw [← c1.2.1, ← c2.2.1, e]
  unfold generateMovesForPiece
  constructor
  · rw [List.map_append, List.nodup_append]
    refine ⟨hnormal, epSuccs_nodup h pc p (toPt o), ?_⟩
    intro k hk k' hk' e
    obtain ⟨q, hq, rfl⟩ := List.mem_map.mp hk
    obtain ⟨q', hq', rfl⟩ := List.mem_map.mp hk'
    obtain ⟨mov, hm, hqm⟩ := List.mem_flatMap.mp hq
    have c1 := succsForTarget_sound h p wf o ho pc hpc hcol mov (hall mov hm) q hqm
    have c2 := epSuccs_sound h p wf o ho pc hpc hcol q' hq'
    rw [e, c2.2.1] at c1
    exact absurd c1.2.2.1 (by simp)
  · intro q hq
    rcases List.mem_append.mp hq with hq | hq
    · obtain ⟨mov, hm, hqm⟩ := List.mem_flatMap.mp hq
      have c1 := succsForTarget_sound h p wf o ho pc hpc hcol mov (hall mov hm) q hqm
      exact ⟨c1.1, c1.2.2.2.1⟩
    · have c2 := epSuccs_sound h p wf o ho pc hpc hcol q hq
      exact ⟨c2.1, ep_not_castle _ _ c2.2.1⟩

/-- the successors generated for one square of the double loop -/
def perSquare (p : Pos) (mode : Mode) (pt : Point) : List Pos :=
  match p.board.get pt.row pt.col with
  | .full piece => if piece.color = p.toMove then generateMovesForPiece h piece p pt mode else []
  | _ => []

theorem generateMoves_perSquare (p : Pos) (mode : Mode) :
    generateMoves h p mode =
      boardCoords.flatMap (perSquare h p mode) ++ (if mode = .all then generateCastlingMoves h p else []) := rfl

theorem perSquare_facts (p : Pos) (wf : WFp p) (mode : Mode) (pt : Point) (hpt : pt ∈ boardCoords) :
    ((perSquare h p mode pt).map moveOf).Nodup ∧
    ∀ q ∈ perSquare h p mode pt, (moveOf q).src = specOf pt ∧ Spec.isCastle (abs p) (moveOf q) = false := by
  have hon := (mem_boardCoords pt).mp hpt
  obtain ⟨o, ho, rfl⟩ : ∃ o, InB o ∧ pt = toPt o := ⟨specOf pt, specOf_inB pt hon, (toPt_specOf pt hon).symm⟩
  rw [specOf_toPt o ho]
  unfold perSquare
  cases hsq : p.board.get (toPt o).row (toPt o).col with
  | empty => simp
  | boundary => simp
  | full pc =>
    simp only
    split
    · rename_i hcol
      exact forPiece_nodup h p wf o ho pc hsq hcol mode
    · simp

theorem squares_nodup (p : Pos) (wf : WFp p) (mode : Mode) :
    (((boardCoords.flatMap (perSquare h p mode))).map moveOf).Nodup := by
  apply nodup_flatMap_map _ _ _ boardCoords_nodup
  · intro pt hpt; exact (perSquare_facts h p wf mode pt hpt).1
  · intro pt hpt pt' hpt' q hq q' hq' e
    have c1 := (perSquare_facts h p wf mode pt hpt).2 q hq
    have c2 := (perSquare_facts h p wf mode pt' hpt').2 q' hq'
    apply specOf_inj pt pt' ((mem_boardCoords pt).mp hpt) ((mem_boardCoords pt').mp hpt')
    rw [← c1.1, ← c2.1, e]

theorem castles_facts (p : Pos) (wf : WFp p) :
    ((generateCastlingMoves h p).map moveOf).Nodup ∧
    ∀ q ∈ generateCastlingMoves h p, Spec.isCastle (abs p) (moveOf q) = true := by
  constructor
  · -- a sublist of the four castling moves
    have one : ∀ (c : Prop) [Decidable c] ct,
        ((if c then [castleSucc h p ct] else []).map moveOf).Sublist [castleMove ct] :=
      fun c _ ct => by split <;> simp [moveOf_castleSucc]
    have sub : ((generateCastlingMoves h p).map moveOf).Sublist ([.wks, .wqs, .bks, .bqs].map castleMove) := by
      unfold generateCastlingMoves
      simp only [List.map_append]
      exact (((one _ _).append (one _ _)).append (one _ _)).append (one _ _)
    exact List.Nodup.sublist sub (by decide)
  · intro q hq
    obtain ⟨ct, hside, hcan, rfl⟩ := (mem_generateCastlingMoves h p q).mp hq
    rw [moveOf_castleSucc]
    exact (castle_abs h p wf.lp wf.kings ct hside ((canCastle_iff p ct).mp hcan).1).1

/-- **C01 / C13, no move appears twice**: in either generation mode the successors carry pairwise
    different moves (from-square, to-square, promotion piece) -/
theorem generateMoves_nodup (p : Pos) (wf : WFp p) (mode : Mode) :
    ((generateMoves h p mode).map moveOf).Nodup := by
  rw [generateMoves_perSquare, List.map_append, List.nodup_append]
  refine ⟨squares_nodup h p wf mode, ?_, ?_⟩
  · split
    · exact (castles_facts h p wf).1
    · simp
  · intro k hk k' hk' e
    obtain ⟨q, hq, rfl⟩ := List.mem_map.mp hk
    obtain ⟨q', hq', rfl⟩ := List.mem_map.mp hk'
    obtain ⟨pt, hpt, hqp⟩ := List.mem_flatMap.mp hq
    have c1 := ((perSquare_facts h p wf mode pt hpt).2 q hqp).2
    split at hq'
    · have c2 := (castles_facts h p wf).2 q' hq'
      rw [e, c2] at c1; cases c1
    · cases hq'

end Walleye
