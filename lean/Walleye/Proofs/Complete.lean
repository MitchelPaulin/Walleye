/-
  C01 / C13 completeness: every legal move of the specification is carried by some successor the
  generator returns; in capture-only mode, every legal capturing move.  With soundness
  (Proofs/GenSound) this is `generateMoves_exact`; C01 (`generateMoves_complete`) and C13 (`caps_exact`) are its
  all-moves and capture-only readings.
-/
import Walleye.Proofs.GenSound
import Walleye.Proofs.Caps
namespace Walleye

variable (h : Hasher)

theorem normal_complete_target (p : Pos) (wf : WFp p) (m : Spec.Move) (hlegal : Spec.legal (abs p) m = true)
    (ho : InB m.src) (ht : InB m.dst) (pc : Piece) (hsrc : (abs p).at m.src = some pc) (hcol : pc.color = (abs p).side)
    (hrule : normalRule (abs p) m.src pc m.dst = true) (hpo : promoOK (abs p).side pc m.dst m.promo = true) :
    toPt m.dst ∈ getMoves pc (toPt m.src).row (toPt m.src).col p.board .all ∧
    ∃ q ∈ succsForTarget h pc p (toPt m.src) (toPt m.dst), moveOf q = m := by
  have hpc := get_of_at p m.src ho pc hsrc
  have hm := toPt_onBoard m.dst ht
  have hsd : specOf (toPt m.dst) = m.dst := specOf_toPt m.dst ht
  rw [← hsd] at hrule hpo
  have hsafe := (legal_iff_safe h p wf m.src ho pc hpc hcol (toPt m.dst) hm hrule m.promo hpo).mp (by rw [hsd]; exact hlegal)
  -- the last stage holds a successor with the requested flag
  obtain ⟨q, hq, hlm, hpq⟩ := (st4_flags h pc (toPt m.src) (toPt m.dst) hm _ (st123_lastMove h pc p _ _)
    (st123_promo h pc p _ _) m.promo).mpr (by rw [hcol]; exact hpo)
  refine ⟨(getMoves_spec p wf.ring wf.inner m.src ho pc hpc (toPt m.dst)).mpr ⟨hm, hrule⟩, q,
    by rw [succsForTarget_eq, if_neg (by rw [hsafe]; simp)]; exact hq, ?_⟩
  rw [moveOf_of q _ _ hlm, hpq, specOf_toPt m.src ho, hsd]
  cases m with | mk s d pr => cases pr <;> rfl

theorem ep_complete_target (p : Pos) (wf : WFp p) (m : Spec.Move) (hlegal : Spec.legal (abs p) m = true)
    (ho : InB m.src) (ht : InB m.dst) (pc : Piece) (hsrc : (abs p).at m.src = some pc) (hcol : pc.color = (abs p).side)
    (hk : pc.kind = .pawn) (hatt : Spec.attacksFrom (abs p) m.src pc m.dst = true)
    (hep : (abs p).ep = some m.dst) (hpo : promoOK (abs p).side pc m.dst m.promo = true) :
    ∃ q ∈ epSuccs h pc p (toPt m.src), moveOf q = m := by
  obtain ⟨c, k⟩ := pc
  simp only at hk hcol
  subst hk
  have hpc := get_of_at p m.src ho _ hsrc
  have hm := toPt_onBoard m.dst ht
  have hsd : specOf (toPt m.dst) = m.dst := specOf_toPt m.dst ht
  have hpep : p.ep = some (toPt m.dst) := by
    obtain ⟨e, hx, he⟩ := Option.map_eq_some_iff.mp ((abs_ep p).symm.trans hep)
    rw [hx, ← he, toPt_specOf e (wf.epb e hx)]
  obtain ⟨_, hrank, _, _, _⟩ := wf.lp.ep _ hep
  have ho' := ho; have ht' := ht
  unfold InB at ho' ht'
  rw [attacksFrom_pawn] at hatt
  have hgeo : EpGeo c m.src (toPt m.dst) := by
    unfold EpGeo toPt
    rw [← hcol] at hrank
    cases c <;> simp only [Color.opp, Spec.fwd] at hatt hrank ⊢ <;> omega
  have x : EpCtx p m.src c (toPt m.dst) := ⟨ho, hm, hpc, hcol, hpep, hgeo⟩
  -- the promotion flag is absent (an en passant target is never on the last rank)
  have hpn : m.promo = none := promoOK_none hpo fun ⟨_, hl⟩ => by
    rw [← hcol] at hrank hl
    cases c <;> simp only [Spec.lastRank, Color.opp] at hrank hl <;> omega
  have hmeq : m = ⟨m.src, specOf (toPt m.dst), none⟩ := by rw [hsd, ← hpn]
  have hsafe := (legal_ep_iff_safe h p wf m.src c (toPt m.dst) x).mp (hmeq ▸ hlegal)
  refine ⟨_, (mem_epSuccs h p wf m.src ho _ hpc hcol _).mpr ⟨c, _, rfl, x, hsafe, rfl⟩, ?_⟩
  rw [moveOf_epBoard h _ p m.src ho]
  exact hmeq.symm

theorem castle_type (P : Spec.Position) (m : Spec.Move) (hpn : m.promo = none) (hic : Spec.isCastle P m = true) :
    ∃ ct, m = castleMove ct ∧ P.side = rightColor ct ∧ P.at (castleMove ct).src = some ⟨rightColor ct, .king⟩ := by
  obtain ⟨hking, hsq, hrank, hfile⟩ := (isCastle_iff P m).mp hic
  obtain ⟨ms, ⟨df, dr⟩, mp⟩ := m
  simp only at hsq hrank hfile hpn hking
  subst hsq; subst hpn; subst hrank
  cases hs : P.side with
  | white =>
    rw [hs] at hking
    rcases hfile with rfl | rfl
    · exact ⟨.wks, rfl, rfl, hking⟩
    · exact ⟨.wqs, rfl, rfl, hking⟩
  | black =>
    rw [hs] at hking
    rcases hfile with rfl | rfl
    · exact ⟨.bks, rfl, rfl, hking⟩
    · exact ⟨.bqs, rfl, rfl, hking⟩

theorem castle_complete (p : Pos) (wf : WFp p) (m : Spec.Move) (hpn : m.promo = none)
    (hic : Spec.isCastle (abs p) m = true) (hcc : castleCond (abs p) m = true) :
    ∃ q ∈ generateMoves h p .all, moveOf q = m := by
  obtain ⟨ct, rfl, hside, hK⟩ := castle_type (abs p) m hpn hic
  rw [(castle_squares ct).1] at hK
  have hc := (canCastle_iff_castleCond p wf ct hside hK).mpr hcc
  exact ⟨_, (mem_generateMoves_toPt h p .all _).mpr (Or.inr ⟨rfl, ct, hside, hc, rfl⟩), moveOf_castleSucc h p ct⟩

theorem castle_not_capture (P : Spec.Position) (m : Spec.Move) (hic : Spec.isCastle P m = true)
    (hcc : castleCond P m = true) : isCaptureSpec P m = false := by
  have hne : Spec.isEnPassant P m = false :=
    Bool.eq_false_iff.mpr fun he => by rw [ep_not_castle P m he] at hic; cases hic
  unfold isCaptureSpec
  rw [castle_dst_empty P m hic hcc, hne]
  rfl

theorem generateMoves_complete_mode (p : Pos) (wf : WFp p) (mode : Mode) (m : Spec.Move)
    (hlegal : Spec.legal (abs p) m = true) (hcap : mode = .caps → isCaptureSpec (abs p) m = true) :
    ∃ q ∈ generateMoves h p mode, moveOf q = m := by
  obtain ⟨ho, ht, pc, hsrc, hcol, hcase⟩ := (pseudoLegal_iff (abs p) m).mp ((legal_iff _ m).mp hlegal).1
  have hpc := get_of_at p m.src ho pc hsrc
  rcases hcase with ⟨hrule, hpo⟩ | ⟨hk, _, hatt, _, hep, hpo⟩ | ⟨_, hpn, hic, hcc⟩
  · obtain ⟨hmov, q, hq, hmo⟩ := normal_complete_target h p wf m hlegal ho ht pc hsrc hcol hrule hpo
    refine ⟨q, (mem_generateMoves_toPt h p mode q).mpr (Or.inl ⟨m.src, pc, ho, hpc, hcol, Or.inl ⟨_, ?_, hq⟩⟩), hmo⟩
    cases mode with
    | all => exact hmov
    | caps =>
      -- an ordinary capture: the destination is occupied
      have hc := hcap rfl
      have hnotep : Spec.isEnPassant (abs p) m = false := not_ep hsrc hrule
      unfold isCaptureSpec at hc
      rw [hnotep, Bool.or_false, ← specOf_toPt m.dst ht, isSome_at_specOf p wf.inner _ (toPt_onBoard m.dst ht)] at hc
      exact (mem_getMoves_caps pc _ _ p.board _).mpr ⟨hmov, by simpa using hc⟩
  · obtain ⟨q, hq, hmo⟩ := ep_complete_target h p wf m hlegal ho ht pc hsrc hcol hk hatt hep hpo
    exact ⟨q, (mem_generateMoves_toPt h p mode q).mpr (Or.inl ⟨m.src, pc, ho, hpc, hcol, Or.inr hq⟩), hmo⟩
  · cases mode with
    | all => exact castle_complete h p wf m hpn hic hcc
    | caps => rw [castle_not_capture (abs p) m hic hcc] at hcap; exact absurd (hcap rfl) (by simp)

theorem generateMoves_exact (p : Pos) (wf : WFp p) (mode : Mode) (m : Spec.Move) :
    (∃ q ∈ generateMoves h p mode, moveOf q = m) ↔
      (Spec.legal (abs p) m = true ∧ (mode = .caps → isCaptureSpec (abs p) m = true)) :=
  ⟨fun ⟨q, hq, e⟩ => e ▸ ⟨(generateMoves_sound_mode h p wf mode q hq).1, (generateMoves_sound_mode h p wf mode q hq).2.2⟩,
    fun ⟨hl, hc⟩ => generateMoves_complete_mode h p wf mode m hl hc⟩

/-- **C01 completeness on the model**: every move that is legal under the specification's rules is
    carried by some successor of the full move generation -/
theorem generateMoves_complete (p : Pos) (wf : WFp p) (m : Spec.Move) (hlegal : Spec.legal (abs p) m = true) :
    ∃ q ∈ generateMoves h p .all, moveOf q = m :=
  generateMoves_complete_mode h p wf .all m hlegal (fun e => by cases e)

/-- **C13 on the model**: a move is carried by some successor of capture-only generation iff it is a
    legal capturing move of the specification (en passant included) -/
theorem caps_exact (p : Pos) (wf : WFp p) (m : Spec.Move) :
    (∃ q ∈ generateMoves h p .caps, moveOf q = m) ↔
      (Spec.legal (abs p) m = true ∧ isCaptureSpec (abs p) m = true) :=
  (generateMoves_exact h p wf .caps m).trans (and_congr_right' ⟨fun hc => hc rfl, fun hc _ => hc⟩)

end Walleye
