/-
  What the search thread reports (boards sent, info lines), for every game, clock and oracle, at every
  point of a run and whatever its outcome (normal end, expiry, panic, fuel exhaustion): nothing below
  the root; every board sent by `getBestMove` is one of the root's successors (possibly re-tagged as
  the PV node); and on a root position with a move the first report is `sent first`, the head of the
  root ordering, handed over before the first evaluation starts (engine fix 3ef6069) — also with
  expiry 0, for every oracle that does not lose all moves.  Reports are only ever appended (`Root`), so
  this board stays the first element of the stream the I/O thread reads: it always has something to
  play at its deadline (C03, C07, C08).
-/
import Walleye.Proofs.RootRule
namespace Walleye

variable {P O : Type}

def Silent {α : Type} (m : M (SS P O) α) : Prop := ∀ s, (outState (m s)).reports = s.reports

theorem Inner.silent {α : Type} {m : M (SS P O) α} (h : Inner m) : Silent m :=
  fun s => (h.out (fun _ _ h => h.1) s).2

theorem nodeSearched_silent : Silent (nodeSearched : M (SS P O) Unit) := fun _ => rfl
theorem get_silent : Silent (M.get : M (SS P O) (SS P O)) := fun _ => rfl
theorem panic_silent {α : Type} : Silent (M.panic : M (SS P O) α) := fun _ => rfl

theorem alphaBeta_silent (g : Game P) (ord : Oracle P O) (fuel : Nat) (p : P) (depth ply : Nat) (a b : Int)
    (n : Bool) : Silent (alphaBeta g ord fuel p depth ply a b n) :=
  (alphaBeta_inner g ord fuel p depth ply a b n).silent

def SentOK (A : P → Prop) (s : SS P O) : Prop := ∀ q, Report.sent q ∈ s.reports.toList → A q

theorem SentOK.of_eq {A : P → Prop} {s s' : SS P O} (h : s'.reports = s.reports) (hi : SentOK A s) :
    SentOK A s' := by
  unfold SentOK; rw [h]; exact hi

theorem SentOK.push {A : P → Prop} {s s' : SS P O} (r : Report P) (h : s'.reports = s.reports.push r)
    (hr : ∀ q, r = .sent q → A q) (hi : SentOK A s) : SentOK A s' := by
  intro q hq
  rw [h, Array.toList_push, List.mem_append, List.mem_singleton] at hq
  rcases hq with hq | hq
  · exact hi q hq
  · exact hr q hq.symm

variable (g : Game P) (ord : Oracle P O)

theorem markPV_mem (best : Option P) (l : List P) :
    ∀ x ∈ markPV g best l, ∃ m ∈ l, x = m ∨ x = g.withOh m Gen.posInf := by
  induction l with
  | nil => intro x hx; simp [markPV] at hx
  | cons m ms ih =>
    intro x hx
    unfold markPV at hx
    cases best with
    | none => exact ⟨x, hx, Or.inl rfl⟩
    | some b =>
      simp only at hx
      split at hx
      · cases List.mem_cons.mp hx with
        | inl h => exact ⟨m, by simp, Or.inr h⟩
        | inr h => exact ⟨x, by simp [h], Or.inl rfl⟩
      · cases List.mem_cons.mp hx with
        | inl h => exact ⟨m, by simp, Or.inl h⟩
        | inr h =>
          obtain ⟨y, hy, hor⟩ := ih x h
          exact ⟨y, by simp [hy], hor⟩

theorem markPV_has (best : Option P) (l : List P) :
    ∀ x ∈ l, x ∈ markPV g best l ∨ g.withOh x Gen.posInf ∈ markPV g best l := by
  induction l with
  | nil => intro x hx; cases hx
  | cons y ys ih =>
    intro x hx
    unfold markPV
    cases best with
    | none => left; exact hx
    | some b =>
      simp only
      by_cases hc : g.lastMove y = g.lastMove b
      · rw [if_pos hc]
        rcases List.mem_cons.mp hx with rfl | hx
        · right; simp
        · left; simp [hx]
      · rw [if_neg hc]
        rcases List.mem_cons.mp hx with rfl | hx
        · left; simp
        · rcases ih x hx with h | h
          · left; simp [h]
          · right; simp [h]

/-- what `getBestMove` can send: a root successor, possibly re-tagged as the PV node -/
def RootSucc (root : P) (q : P) : Prop := ∃ m ∈ g.gen root .all, q = m ∨ q = g.withOh m Gen.posInf

theorem getBestMove_sends_root_successors (hord : OrdSub ord) (fuel : Nat) (root : P) (s : SS P O)
    (hs : s.reports = #[]) :
    SentOK (RootSucc g root) (outState (getBestMove g ord fuel root s)) :=
  getBestMove_rule g ord (fun _ => SentOK (RootSucc g root)) (fun _ _ => SentOK (RootSucc g root))
    (fun l => ∀ m ∈ l, RootSucc g root m) _ fuel root s
    (hQK := fun _ _ h => h) (hQI := fun _ _ _ h => h)
    (init := by intro q hq; rw [hs] at hq; cases hq)
    (hgen := fun m hm => ⟨m, hm, Or.inl rfl⟩) (hmark := fun best => markPV_mem g best _)
    (hord := fun o e l h x hx => h x (hord o e _ l x hx))
    (skip := fun _ _ _ h _ => h.of_eq rfl)
    (start := fun _ _ _ h => h.of_eq rfl)
    (fallback := fun _ first _ _ _ hA h =>
      h.push (.sent first) rfl fun q e => by cases e; exact hA _ (List.mem_cons_self ..))
    (quiet := fun _ _ _ _ q h => h.of_eq q.2)
    (accept := fun _ _ _ x hA h =>
      .push (.info _) (accepted_pushes ..) (fun _ e => by cases e)
        ((h.of_eq x.quiet.2).push (.sent x.m) rfl fun q e => by cases e; exact hA _ x.mem))
    (next := fun _ _ _ _ h => h)

theorem getBestMove_hands_over_first (hne : OrdNonempty ord) (fuel : Nat) (root : P) (s : SS P O)
    (hs : s.reports = #[]) (hroot : g.gen root .all ≠ []) :
    ∃ first tail rest, (ord s.ord s.expired 'R' (g.gen root .all)).1 = first :: tail ∧
      (outState (getBestMove g ord fuel root s)).reports.toList = Report.sent first :: rest := by
  unfold getBestMove
  obtain ⟨n, hn⟩ : ∃ n, Gen.maxDepth = n + 1 := ⟨Gen.maxDepth - 1, by decide⟩
  rw [hn, iterate_succ, if_neg (by decide)]
  cases hl : (ord s.ord s.expired 'R' (g.gen root .all)).1 with
  | nil => exact absurd hl (hne _ _ _ _ hroot)
  | cons first tail =>
    refine ⟨first, tail, ?_⟩
    -- everything after the first board only appends
    have after : Root (rootLoop g ord fuel 1 first (first :: tail) (-Gen.posInf) none >>= iterNext g ord fuel root n 1) :=
      Steps.bind grew_rel (rootLoop_root g ord fuel 1 first (first :: tail) (-Gen.posInf) none) fun r => by
        cases r with
        | none => exact Steps.pure grew_rel _
        | some ab => exact iterate_root g ord fuel root _ _ _ _
    obtain ⟨rest, h⟩ := after.grew (iterStart 1 first (ord s.ord s.expired 'R' (g.gen root .all)).2 s)
    refine ⟨rest, rfl, h.symm.trans ?_⟩
    show (s.reports.push (Report.sent first)).toList ++ rest = _
    rw [hs]; rfl

end Walleye
