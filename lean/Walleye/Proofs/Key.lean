/-
  The Zobrist key (C05) for an ARBITRARY hasher: the from-scratch key `scratchKey` of a model position, and
  `KeyOK` (incremental key = scratch key) preserved by the four board.rs mutators and by the two raw updates the
  generator makes itself (`keyOK_set`, `keyOK_setEp`).  The facts about the 64 coordinates `boardCoords` are
  here because the key is a fold over them.
-/
import Walleye.Proofs.Fields
namespace Walleye

def sqKey (h : Hasher) (s : Square) (pt : Point) : UInt64 :=
  match s with
  | .full pc => h.piece pc pt
  | _ => 0

def xorFold (f : Point → UInt64) (l : List Point) : UInt64 := l.foldl (fun k pt => k ^^^ f pt) 0

def placementKey (h : Hasher) (b : Board) : UInt64 :=
  xorFold (fun pt => sqKey h (b.get pt.row pt.col) pt) boardCoords

def sideKey (h : Hasher) (c : Color) : UInt64 := match c with | .black => h.side | .white => 0

def rightKey (h : Hasher) (ct : CastlingType) (on : Bool) : UInt64 := if on then h.castle ct else 0

def epKey (h : Hasher) (ep : Option Point) : UInt64 := match ep with | some t => h.epFile t.col | none => 0

def scratchKey (h : Hasher) (p : Pos) : UInt64 :=
  placementKey h p.board ^^^ sideKey h p.toMove ^^^ rightKey h .wks p.wks ^^^ rightKey h .wqs p.wqs
    ^^^ rightKey h .bks p.bks ^^^ rightKey h .bqs p.bqs ^^^ epKey h p.ep

def KeyOK (h : Hasher) (p : Pos) : Prop := p.key = scratchKey h p

theorem xor_self_cancel (a b : UInt64) : a ^^^ b ^^^ b = a := by
  rw [UInt64.xor_assoc, UInt64.xor_self, UInt64.xor_zero]

theorem xor_right_comm' (a b c : UInt64) : a ^^^ b ^^^ c = a ^^^ c ^^^ b := by
  rw [UInt64.xor_assoc, UInt64.xor_comm b c, ← UInt64.xor_assoc]

theorem foldl_xor_init (f : Point → UInt64) (l : List Point) (k : UInt64) :
    l.foldl (fun k pt => k ^^^ f pt) k = k ^^^ l.foldl (fun k pt => k ^^^ f pt) 0 := by
  induction l generalizing k with
  | nil => simp
  | cons x xs ih =>
    simp only [List.foldl_cons]
    rw [ih (k ^^^ f x), ih (0 ^^^ f x), UInt64.zero_xor, UInt64.xor_assoc]

theorem xorFold_cons (f : Point → UInt64) (x : Point) (xs : List Point) :
    xorFold f (x :: xs) = f x ^^^ xorFold f xs := by
  unfold xorFold
  simp only [List.foldl_cons]
  rw [foldl_xor_init, UInt64.zero_xor]

theorem xorFold_congr (f g : Point → UInt64) (l : List Point) (h : ∀ pt ∈ l, f pt = g pt) :
    xorFold f l = xorFold g l := by
  induction l with
  | nil => rfl
  | cons x xs ih =>
    rw [xorFold_cons, xorFold_cons, h x (by simp), ih (fun pt hp => h pt (by simp [hp]))]

theorem xorFold_update (f g : Point → UInt64) (l : List Point) (p0 : Point)
    (hnd : l.Nodup) (hmem : p0 ∈ l) (hne : ∀ pt ∈ l, pt ≠ p0 → g pt = f pt) :
    xorFold g l = xorFold f l ^^^ f p0 ^^^ g p0 := by
  induction l with
  | nil => cases hmem
  | cons x xs ih =>
    rw [xorFold_cons, xorFold_cons]
    have hx : x ∉ xs := (List.nodup_cons.mp hnd).1
    have hxs : xs.Nodup := (List.nodup_cons.mp hnd).2
    by_cases hxp : x = p0
    · subst hxp
      have : xorFold g xs = xorFold f xs :=
        xorFold_congr g f xs (fun pt hp => hne pt (by simp [hp]) (fun e => hx (e ▸ hp)))
      rw [this]
      -- g x ^ F = f x ^ F ^ f x ^ g x
      rw [UInt64.xor_comm (f x) (xorFold f xs), xor_self_cancel, UInt64.xor_comm]
    · have hm : p0 ∈ xs := by
        cases List.mem_cons.mp hmem with
        | inl h => exact absurd h.symm hxp
        | inr h => exact h
      rw [ih hxs hm (fun pt hp hn => hne pt (by simp [hp]) hn), hne x (by simp) hxp]
      simp only [UInt64.xor_assoc]

theorem nodup_grid {α β} (l : List α) (hl : l.Nodup) (m : Nat) (f : α → Nat → β)
    (hf : ∀ a ∈ l, ∀ a' ∈ l, ∀ j j', f a j = f a' j' → a = a' ∧ j = j') :
    (l.flatMap fun a => (List.range m).map (f a)).Nodup := by
  unfold List.Nodup
  rw [List.pairwise_flatMap]
  refine ⟨fun a ha => ?_, hl.imp_of_mem fun ha ha' hne x hx y hy e => ?_⟩
  · rw [List.pairwise_map]
    exact List.nodup_range.imp fun hne e => hne (hf a ha a ha _ _ e).2
  · obtain ⟨j, _, rfl⟩ := List.mem_map.mp hx
    obtain ⟨j', _, rfl⟩ := List.mem_map.mp hy
    exact hne (hf _ ha _ ha' _ _ e).1

theorem boardCoords_nodup : boardCoords.Nodup :=
  nodup_grid _ List.nodup_range 8 _ fun i _ i' _ j j' e => by
    simp only [Point.mk.injEq] at e; omega

theorem mem_boardCoords (pt : Point) : pt ∈ boardCoords ↔ OnBoard pt := by
  unfold boardCoords OnBoard
  simp only [List.mem_flatMap, List.mem_map, List.mem_range]
  constructor
  · rintro ⟨i, hi, j, hj, rfl⟩; simp only; omega
  · intro ⟨h1, h2, h3, h4⟩
    refine ⟨pt.row - 2, by omega, pt.col - 2, by omega, ?_⟩
    cases pt; simp only at *; congr <;> omega

theorem placementKey_set (h : Hasher) (b : Board) (pt : Point) (v : Square) (hpt : OnBoard pt) :
    placementKey h (b.set pt.row pt.col v) =
      placementKey h b ^^^ sqKey h (b.get pt.row pt.col) pt ^^^ sqKey h v pt := by
  unfold placementKey
  rw [xorFold_update (fun q => sqKey h (b.get q.row q.col) q)
        (fun q => sqKey h ((b.set pt.row pt.col v).get q.row q.col) q) boardCoords pt
        boardCoords_nodup ((mem_boardCoords pt).mpr hpt)]
  · simp only [Board.get_set_eq b pt.row pt.col v hpt.lt.1 hpt.lt.2]
  · intro q _ hq
    show sqKey h ((b.set pt.row pt.col v).get q.row q.col) q = sqKey h (b.get q.row q.col) q
    rw [Board.get_set_ne]
    intro ⟨e1, e2⟩
    apply hq
    cases q; cases pt; simp_all

theorem placementKey_set_eq_iff (h : Hasher) (b : Board) (pt : Point) (v : Square) (hpt : OnBoard pt) :
    placementKey h (b.set pt.row pt.col v) = placementKey h b ↔
      sqKey h (b.get pt.row pt.col) pt = sqKey h v pt := by
  rw [placementKey_set h b pt v hpt, UInt64.xor_assoc]
  exact ⟨fun e => UInt64.xor_eq_zero_iff.mp ((UInt64.xor_right_inj _).mp (e.trans UInt64.xor_zero.symm)),
    fun e => by rw [e, UInt64.xor_self, UInt64.xor_zero]⟩

/-! A mutator changes one summand of `scratchKey` by a word `w` and the key by the
    same `w`: write the new summand as old ⊕ `w` (`sideKey_opp`, `rightKey_off`), then let `w` travel to
    the end of the sum (`xor_right_comm'`).  No normalisation of the whole sum is needed. -/

theorem sideKey_opp (h : Hasher) (c : Color) : sideKey h c.opp = sideKey h c ^^^ h.side := by
  cases c <;> simp [sideKey, Color.opp]

theorem rightKey_off (h : Hasher) (ct : CastlingType) (on : Bool) (hon : on = true) :
    rightKey h ct on ^^^ h.castle ct = rightKey h ct false := by
  subst hon; simp [rightKey]

theorem keyOK_swapColor (h : Hasher) (p : Pos) (hk : KeyOK h p) : KeyOK h (p.swapColor h) := by
  unfold KeyOK Pos.swapColor scratchKey at *
  dsimp only
  rw [sideKey_opp, hk]
  simp only [← UInt64.xor_assoc, xor_right_comm' _ h.side]

theorem keyOK_takeAway (h : Hasher) (p : Pos) (ct : CastlingType) (hk : KeyOK h p) :
    KeyOK h (p.takeAway h ct) := by
  unfold KeyOK at *
  cases ct <;> unfold Pos.takeAway <;> dsimp only <;> split <;> try exact hk
  all_goals
    rename_i hon
    unfold scratchKey at hk ⊢
    dsimp only
    rw [← rightKey_off h _ _ hon, hk]
    simp only [← UInt64.xor_assoc, xor_right_comm' _ (h.castle _)]

theorem keyOK_unsetEp (h : Hasher) (p : Pos) (hk : KeyOK h p) : KeyOK h (p.unsetEp h) := by
  unfold KeyOK Pos.unsetEp scratchKey at *
  cases he : p.ep with
  | none => simp only; rw [hk, he]
  | some t =>
    simp only
    rw [hk, he]
    simp only [epKey, xor_self_cancel, UInt64.xor_zero]

theorem scratchKey_board (h : Hasher) (p : Pos) (b : Board) :
    scratchKey h { p with board := b } = scratchKey h p ^^^ placementKey h p.board ^^^ placementKey h b := by
  unfold scratchKey
  dsimp only
  -- the two words at the end travel to the front, where the old placement word meets itself
  simp only [xor_right_comm' _ _ (placementKey h b)]
  simp only [xor_right_comm' _ _ (placementKey h p.board)]
  rw [UInt64.xor_self, UInt64.zero_xor]

/-- used for promotion, for the pawn taken en passant and for each half of `move_piece` -/
theorem keyOK_set (h : Hasher) (p : Pos) (pt : Point) (v : Square) (w : UInt64) (hpt : OnBoard pt)
    (hw : sqKey h (p.board.get pt.row pt.col) pt ^^^ sqKey h v pt = w) (hk : KeyOK h p) :
    KeyOK h { p with board := p.board.set pt.row pt.col v, key := p.key ^^^ w } := by
  unfold KeyOK scratchKey at *
  dsimp only
  rw [placementKey_set h _ pt v hpt, hk, ← hw]
  simp only [← UInt64.xor_assoc, xor_right_comm' _ (sqKey h (p.board.get pt.row pt.col) pt)]
  simp only [xor_right_comm' _ (sqKey h v pt)]

theorem keyOK_setEp (h : Hasher) (p : Pos) (t : Point) (hep : p.ep = none) (hk : KeyOK h p) :
    KeyOK h { p with ep := some t, key := p.key ^^^ h.epFile t.col } := by
  unfold KeyOK scratchKey at *
  rw [hk, hep]
  simp [epKey]

/-- `hs` asks nothing of a start square without a piece: `move_piece` is then a no-op -/
theorem keyOK_movePiece_of_onBoard (h : Hasher) (p : Pos) (s e : Point)
    (hs : ∀ cur, p.board.get s.row s.col = .full cur → OnBoard s) (he : OnBoard e)
    (hk : KeyOK h p) : KeyOK h (p.movePiece h s e) := by
  unfold Pos.movePiece
  cases hsq : p.board.get s.row s.col with
  | empty => exact hk
  | boundary => exact hk
  | full cur =>
    -- the two writes of `move_piece`, each a `keyOK_set`; what is left is that the words `move_piece` puts on
    -- the key are the two old-word ⊕ new-word pairs
    have h2 := keyOK_set h _ e (.full cur) _ he rfl (keyOK_set h p s .empty _ (hs cur hsq) rfl hk)
    unfold KeyOK at h2 ⊢
    refine Eq.trans ?_ h2
    dsimp only
    rw [hsq]
    cases (p.board.set s.row s.col .empty).get e.row e.col with
    | full tp =>
      simp only [sqKey, UInt64.xor_zero, UInt64.xor_assoc]
      rw [UInt64.xor_comm (h.piece tp e) (h.piece cur s ^^^ _), UInt64.xor_assoc, UInt64.xor_comm (h.piece cur e)]
    | _ => simp only [sqKey, UInt64.xor_zero, UInt64.zero_xor, UInt64.xor_assoc]

end Walleye
