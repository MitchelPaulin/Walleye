/- The pseudo-legal targets of `get_moves`, loop by loop: what the knight, king and pawn loops keep, what the
   walk over empty squares returns (`walk_eq`) and hence which squares of a ray a slider reaches (`mem_slideDir`).
   Every target holds what the mode asks for (`getMoves_tgtOK`): it is no sentinel, and with the sentinel ring in
   place (`RingOK`) it is on the 8x8 board. -/
import Walleye.Proofs.Fields
namespace Walleye

/-- the sentinel ring of the mailbox is intact: every cell outside the 8x8 part reads `boundary` (contrapositive) -/
def RingOK (b : Board) : Prop := ∀ r c, b.get r c ≠ .boundary → OnBoard ⟨r, c⟩

theorem getI_ne_boundary (b : Board) (r c : Int) (h : b.getI r c ≠ .boundary) :
    0 ≤ r ∧ 0 ≤ c ∧ b.getI r c = b.get r.toNat c.toNat := by
  by_cases hc : 0 ≤ r ∧ 0 ≤ c
  · refine ⟨hc.1, hc.2, ?_⟩
    unfold Board.getI; rw [if_pos hc]
  · exfalso; apply h; unfold Board.getI; rw [if_neg hc]

theorem get_ptI (b : Board) (r c : Int) (h : b.getI r c ≠ .boundary) :
    b.get (ptI r c).row (ptI r c).col = b.getI r c :=
  (getI_ne_boundary b r c h).2.2.symm

/-- `usize` index arithmetic that does not wrap is the signed probe -/
theorem get_eq_getI (b : Board) (r c : Nat) (ri ci : Int) (hr : (r : Int) = ri) (hc : (c : Int) = ci) :
    b.get r c = b.getI ri ci := by
  subst hr hc
  unfold Board.getI
  rw [if_pos ⟨Int.natCast_nonneg _, Int.natCast_nonneg _⟩, Int.toNat_natCast, Int.toNat_natCast]

theorem offboard_boundary (b : Board) (hr : RingOK b) (r c : Int)
    (h : ¬ (2 ≤ r ∧ r ≤ 9 ∧ 2 ≤ c ∧ c ≤ 9)) : b.getI r c = .boundary := by
  by_cases hb : b.getI r c = .boundary
  · exact hb
  · obtain ⟨h0, h1, e⟩ := getI_ne_boundary b r c hb
    have := hr r.toNat c.toNat (by rw [← e]; exact hb)
    unfold OnBoard at this
    exfalso; apply h; simp only at this; omega

theorem get_offboard (b : Board) (hr : RingOK b) (r c : Nat) (h : ¬ OnBoard ⟨r, c⟩) : b.get r c = .boundary :=
  Decidable.by_contra fun hne => h (hr r c hne)

theorem getI_off_row (b b' : Board) (trow : Nat) (hoff : ∀ r k, r ≠ trow → b'.get r k = b.get r k)
    (r c : Int) (hr : r ≠ trow) : b'.getI r c = b.getI r c := by
  unfold Board.getI
  by_cases hc : 0 ≤ r ∧ 0 ≤ c
  · rw [if_pos hc, if_pos hc]
    exact hoff _ _ (by omega)
  · rw [if_neg hc, if_neg hc]

theorem isEmpty_iff (s : Square) : s.isEmpty = true ↔ s = .empty := by cases s <;> simp [Square.isEmpty]

theorem isEmpty_ne_boundary (s : Square) (h : s.isEmpty = true) : s ≠ .boundary := by
  cases s <;> simp_all [Square.isEmpty]

theorem isColor_ne_boundary (s : Square) (c : Color) (h : s.isColor c = true) : s ≠ .boundary := by
  cases s <;> simp_all [Square.isColor]

theorem isColor_full (s : Square) (c : Color) (h : s.isColor c = true) : ∃ q : Piece, s = .full q ∧ q.color = c := by
  cases s with
  | full q => exact ⟨q, rfl, by simpa [Square.isColor] using h⟩
  | empty => simp [Square.isColor] at h
  | boundary => simp [Square.isColor] at h

theorem isEmptyOrColor_ne_boundary (s : Square) (c : Color) (h : s.isEmptyOrColor c = true) : s ≠ .boundary := by
  cases s <;> simp_all [Square.isEmptyOrColor]

theorem isEmptyOrColor_iff (sq : Square) (c : Color) :
    sq.isEmptyOrColor c = true ↔ sq.isEmpty = true ∨ sq.isColor c = true := by
  cases sq with
  | empty => simp [Square.isEmptyOrColor, Square.isEmpty]
  | boundary => simp [Square.isEmptyOrColor, Square.isEmpty, Square.isColor]
  | full p =>
    simp only [Square.isEmptyOrColor, Square.isEmpty, Square.isColor, beq_iff_eq, Bool.false_eq_true, false_or]
    exact ⟨fun h => h.symm, fun h => h.symm⟩

theorem isColor_not_empty (sq : Square) (c : Color) (h : sq.isColor c = true) : sq.isEmpty = false := by
  cases sq <;> simp [Square.isColor, Square.isEmpty] at *

/-- what every loop of movegen.rs asks of a target square: `is_empty_or_color` of the opponent when all moves are
    wanted, `is_color` in capture-only mode.  One name for both, so that each loop is described once, for any mode. -/
def tgtOK (mode : Mode) (c : Color) (sq : Square) : Bool :=
  if mode = .all then sq.isEmptyOrColor c.opp else sq.isColor c.opp

theorem tgtOK_ne_boundary (mode : Mode) (c : Color) (sq : Square) (h : tgtOK mode c sq = true) : sq ≠ .boundary := by
  cases mode <;> cases sq <;> simp_all [tgtOK, Square.isEmptyOrColor, Square.isColor]

theorem tgtOK_of_isEmpty (c : Color) (sq : Square) (h : sq.isEmpty = true) : tgtOK .all c sq = true := by
  cases sq <;> simp_all [tgtOK, Square.isEmptyOrColor, Square.isEmpty]

theorem tgtOK_of_isColor (mode : Mode) (c : Color) (sq : Square) (h : sq.isColor c.opp = true) :
    tgtOK mode c sq = true := by
  cases mode <;> cases sq <;> simp_all [tgtOK, Square.isEmptyOrColor, Square.isColor]

/-- the filter `knight_moves` and `king_moves` put on a candidate square -/
theorem tgt_filter (mode : Mode) (c : Color) (sq : Square) (pt x : Point) :
    (if sq.isEmptyOrColor c.opp then
        if mode = .caps then (if !sq.isEmpty then some pt else none) else some pt else none) = some x ↔
    x = pt ∧ tgtOK mode c sq = true := by
  cases mode <;> cases sq <;>
    simp [tgtOK, Square.isEmptyOrColor, Square.isColor, Square.isEmpty, @eq_comm _ pt x, @eq_comm _ c.opp, and_comm]

theorem mem_knightMoves (piece : Piece) (row col : Nat) (b : Board) (mode : Mode) (pt : Point) :
    pt ∈ knightMoves piece row col b mode ↔
      ∃ rc ∈ Gen.knightCords, pt = ptI ((row : Int) + rc.1) ((col : Int) + rc.2) ∧
        tgtOK mode piece.color (b.getI ((row : Int) + rc.1) ((col : Int) + rc.2)) = true := by
  unfold knightMoves
  simp only [List.mem_filterMap, tgt_filter]

theorem mem_kingMoves (piece : Piece) (row col : Nat) (b : Board) (mode : Mode) (pt : Point) :
    pt ∈ kingMoves piece row col b mode ↔
      ∃ i j : Nat, i < 3 ∧ j < 3 ∧ pt = ⟨row + i - 1, col + j - 1⟩ ∧
        tgtOK mode piece.color (b.get (row + i - 1) (col + j - 1)) = true := by
  unfold kingMoves
  simp only [List.mem_flatMap, List.mem_filterMap, tgt_filter, List.mem_range]
  exact ⟨fun ⟨i, hi, j, hj, h⟩ => ⟨i, j, hi, hj, h⟩, fun ⟨i, j, hi, hj, h⟩ => ⟨i, hi, j, hj, h⟩⟩

/-- white pawns move towards smaller rows -/
def ahead (c : Color) (row k : Nat) : Nat := match c with | .white => row - k | .black => row + k

def doublePushRow (c : Color) : Nat :=
  match c with | .white => Gen.whiteDoublePushRow | .black => Gen.blackDoublePushRow

theorem mem_pawnMoves (piece : Piece) (row col : Nat) (b : Board) (mode : Mode) (pt : Point) :
    pt ∈ pawnMoves piece row col b mode ↔
      ((pt = ⟨ahead piece.color row 1, col - 1⟩ ∨ pt = ⟨ahead piece.color row 1, col + 1⟩) ∧
        (b.get pt.row pt.col).isColor piece.color.opp = true) ∨
      (mode = .all ∧ (b.get (ahead piece.color row 1) col).isEmpty = true ∧
        (pt = ⟨ahead piece.color row 1, col⟩ ∨
         (row = doublePushRow piece.color ∧ (b.get (ahead piece.color row 2) col).isEmpty = true ∧
           pt = ⟨ahead piece.color row 2, col⟩))) := by
  unfold pawnMoves
  cases piece.color <;>
    simp only [ahead, doublePushRow, Color.opp, List.mem_append, List.mem_ite_nil_right, List.mem_cons,
      List.not_mem_nil, or_false]
  · constructor
    · rintro ((⟨hx, rfl⟩ | ⟨hx, rfl⟩) | ⟨⟨hm, he⟩, h⟩)
      · exact Or.inl ⟨Or.inl rfl, hx⟩
      · exact Or.inl ⟨Or.inr rfl, hx⟩
      · exact Or.inr ⟨hm, he, h.imp id fun ⟨⟨a, b⟩, c⟩ => ⟨a, b, c⟩⟩
    · rintro (⟨rfl | rfl, hx⟩ | ⟨hm, he, h⟩)
      · exact Or.inl (Or.inl ⟨hx, rfl⟩)
      · exact Or.inl (Or.inr ⟨hx, rfl⟩)
      · exact Or.inr ⟨⟨hm, he⟩, h.imp id fun ⟨a, b, c⟩ => ⟨⟨a, b⟩, c⟩⟩
  · -- black lists the capture squares in the other order
    constructor
    · rintro ((⟨hx, rfl⟩ | ⟨hx, rfl⟩) | ⟨⟨hm, he⟩, h⟩)
      · exact Or.inl ⟨Or.inr rfl, hx⟩
      · exact Or.inl ⟨Or.inl rfl, hx⟩
      · exact Or.inr ⟨hm, he, h.imp id fun ⟨⟨a, b⟩, c⟩ => ⟨a, b, c⟩⟩
    · rintro (⟨rfl | rfl, hx⟩ | ⟨hm, he, h⟩)
      · exact Or.inl (Or.inr ⟨hx, rfl⟩)
      · exact Or.inl (Or.inl ⟨hx, rfl⟩)
      · exact Or.inr ⟨⟨hm, he⟩, h.imp id fun ⟨a, b, c⟩ => ⟨⟨a, b⟩, c⟩⟩

theorem pawnMoves_tgtOK (piece : Piece) (row col : Nat) (b : Board) (mode : Mode) :
    ∀ pt ∈ pawnMoves piece row col b mode, tgtOK mode piece.color (b.get pt.row pt.col) = true := by
  intro pt hpt
  rcases (mem_pawnMoves piece row col b mode pt).mp hpt with ⟨-, hx⟩ | ⟨rfl, he, rfl | ⟨-, h2, rfl⟩⟩
  · exact tgtOK_of_isColor _ _ _ hx
  · exact tgtOK_of_isEmpty _ _ he
  · exact tgtOK_of_isEmpty _ _ h2

theorem pawnMoves_row (piece : Piece) (row col : Nat) (b : Board) (mode : Mode) :
    ∀ pt ∈ pawnMoves piece row col b mode,
      pt.row = ahead piece.color row 1 ∨ (mode = .all ∧ pt.row = ahead piece.color row 2) := by
  intro pt hpt
  rcases (mem_pawnMoves piece row col b mode pt).mp hpt with ⟨rfl | rfl, -⟩ | ⟨hm, -, rfl | ⟨-, -, rfl⟩⟩
  · exact .inl rfl
  · exact .inl rfl
  · exact .inl rfl
  · exact .inr ⟨hm, rfl⟩

theorem succ_mul_int (i : Nat) (e : Int) : ((i : Int) + 1) * e = e + i * e := by
  rw [Int.add_mul, Int.one_mul, Int.add_comm]

/-- the walk passes the squares `(r, c) + i * (dr, dc)` in order while they are empty: it returns the first `n`
    of them, reports the next, and its content unless the fuel has run out -/
theorem walk_eq (b : Board) (dr dc : Int) (fuel : Nat) (r c : Int) (acc : List Point) :
    ∃ n : Nat, n ≤ fuel ∧ (∀ i : Nat, i < n → (b.getI (r + i * dr) (c + i * dc)).isEmpty = true) ∧
      (walk b dr dc fuel r c acc).1 = acc ++ (List.range n).map (fun i : Nat => ptI (r + i * dr) (c + i * dc)) ∧
      (walk b dr dc fuel r c acc).2.1 = ptI (r + n * dr) (c + n * dc) ∧
      (walk b dr dc fuel r c acc).2.2 = (if n < fuel then b.getI (r + n * dr) (c + n * dc) else .boundary) ∧
      (n < fuel → (b.getI (r + n * dr) (c + n * dc)).isEmpty = false) := by
  induction fuel generalizing r c acc with
  | zero => exact ⟨0, Nat.le_refl 0, fun i hi => by omega, by simp [walk], by simp [walk], by simp [walk], fun h => by omega⟩
  | succ k ih =>
    simp only [walk]
    by_cases he : (b.getI r c).isEmpty = true
    · -- the first square is empty: the walk goes on from the next one, every distance shifts by one
      obtain ⟨m, hm, h1, h2, h3, h4, h5⟩ := ih (r + dr) (c + dc) (acc ++ [ptI r c])
      simp only [Int.add_assoc, ← succ_mul_int, ← Int.natCast_succ] at h1 h2 h3 h4 h5
      rw [if_pos he]
      refine ⟨m + 1, by omega, fun i hi => ?_, ?_, h3, ?_, fun h => h5 (by omega)⟩
      · cases i with
        | zero => simpa using he
        | succ j => exact h1 j (by omega)
      · rw [h2, List.range_succ_eq_map, List.map_cons, List.map_map, List.append_assoc]
        simp
      · rw [h4]; simp only [Nat.add_lt_add_iff_right]
    · rw [if_neg he]
      exact ⟨0, by omega, fun i hi => by omega, by simp, by simp, by simp, fun _ => by simpa using he⟩

theorem walk_spec (b : Board) (dr dc : Int) (fuel : Nat) (r c : Int) :
    (∀ pt ∈ (walk b dr dc fuel r c []).1, (b.get pt.row pt.col).isEmpty = true) ∧
    ((walk b dr dc fuel r c []).2.2 ≠ .boundary →
      (walk b dr dc fuel r c []).2.2 = b.get (walk b dr dc fuel r c []).2.1.row (walk b dr dc fuel r c []).2.1.col) := by
  obtain ⟨n, -, h1, h2, h3, h4, -⟩ := walk_eq b dr dc fuel r c []
  rw [h2, h3, h4]
  constructor
  · intro pt hpt
    obtain ⟨i, hi, rfl⟩ := List.mem_map.mp hpt
    have he := h1 i (List.mem_range.mp hi)
    rw [get_ptI b _ _ (isEmpty_ne_boundary _ he)]; exact he
  · intro hne
    by_cases hn : n < fuel
    · rw [if_pos hn] at hne ⊢; exact (get_ptI b _ _ hne).symm
    · rw [if_neg hn] at hne; exact absurd rfl hne

theorem walk_list (b : Board) (dr dc : Int) (fuel : Nat) (r c : Int) (acc : List Point) (m : Nat) (hm : m < fuel)
    (hne : (b.getI (r + m * dr) (c + m * dc)).isEmpty = false) :
    ∃ n : Nat, n ≤ m ∧ (walk b dr dc fuel r c acc).2.1 = ptI (r + n * dr) (c + n * dc) ∧
      (walk b dr dc fuel r c acc).2.2 = b.getI (r + n * dr) (c + n * dc) ∧
      (b.getI (r + n * dr) (c + n * dc)).isEmpty = false ∧
      (∀ i : Nat, i < n → (b.getI (r + i * dr) (c + i * dc)).isEmpty = true) ∧
      (walk b dr dc fuel r c acc).1 = acc ++ (List.range n).map (fun i : Nat => ptI (r + i * dr) (c + i * dc)) := by
  obtain ⟨n, -, h1, h2, h3, h4, h5⟩ := walk_eq b dr dc fuel r c acc
  -- the walk does not pass the non-empty square
  have hnm : n ≤ m := Nat.le_of_not_lt fun hlt => by rw [h1 m hlt] at hne; cases hne
  have hn : n < fuel := Nat.lt_of_le_of_lt hnm hm
  rw [if_pos hn] at h4
  exact ⟨n, hnm, h3, h4, h5 hn, h1, h2⟩

theorem walk_firstHit (b : Board) (dr dc : Int) :
    ∀ (fuel : Nat) (r c : Int) (acc : List Point),
      (∃ n : Nat, n < fuel ∧ (b.getI (r + n * dr) (c + n * dc)).isEmpty = false) →
      ∃ n : Nat, (walk b dr dc fuel r c acc).2.1 = ptI (r + n * dr) (c + n * dc) ∧
        (walk b dr dc fuel r c acc).2.2 = b.getI (r + n * dr) (c + n * dc) ∧
        (b.getI (r + n * dr) (c + n * dc)).isEmpty = false ∧
        ∀ i : Nat, i < n → (b.getI (r + i * dr) (c + i * dc)).isEmpty = true := fun fuel r c acc ⟨m, hm, hne⟩ =>
  let ⟨n, _, h1, h2, h3, h4, _⟩ := walk_list b dr dc fuel r c acc m hm hne
  ⟨n, h1, h2, h3, h4⟩

/-- the (n+1)-th square from `t` in direction `d` -/
def rayAt (b : Board) (t : Point) (d : Int × Int) (n : Nat) : Square :=
  b.getI ((t.row : Int) + d.1 + (n : Int) * d.1) ((t.col : Int) + d.2 + (n : Int) * d.2)

def rayPt (t : Point) (d : Int × Int) (n : Nat) : Point :=
  ptI ((t.row : Int) + d.1 + (n : Int) * d.1) ((t.col : Int) + d.2 + (n : Int) * d.2)

def UnitDir (d : Int × Int) : Prop :=
  (d.1 = 1 ∨ d.1 = -1 ∨ d.1 = 0) ∧ (d.2 = 1 ∨ d.2 = -1 ∨ d.2 = 0) ∧ ¬ (d.1 = 0 ∧ d.2 = 0)

instance (d : Int × Int) : Decidable (UnitDir d) := by unfold UnitDir; infer_instance

theorem rayAt_off_row (b b' : Board) (t : Point) (hoff : ∀ r k, r ≠ t.row → b'.get r k = b.get r k)
    (d : Int × Int) (hd : d.1 = 1 ∨ d.1 = -1) (i : Nat) : rayAt b' t d i = rayAt b t d i := by
  unfold rayAt
  apply getI_off_row b b' t.row hoff
  rcases hd with e | e <;> rw [e] <;> omega

theorem rayAt_east (b : Board) (r c i : Nat) : rayAt b ⟨r, c⟩ (0, 1) i = b.get r (c + 1 + i) := by
  unfold rayAt Board.getI
  simp only
  rw [if_pos ⟨by omega, by omega⟩]
  congr 1 <;> omega

theorem rayAt_west (b : Board) (r c i : Nat) (hc : i + 1 ≤ c) : rayAt b ⟨r, c⟩ (0, -1) i = b.get r (c - 1 - i) := by
  unfold rayAt Board.getI
  simp only
  rw [if_pos ⟨by omega, by omega⟩]
  congr 1 <;> omega

theorem ray_lt_seven (b : Board) (hr : RingOK b) (t : Point) (ht : OnBoard t) (d : Int × Int) (hd : UnitDir d)
    (n : Nat) (h : rayAt b t d n ≠ .boundary) : n < 7 := by
  by_cases hn : n < 7
  · exact hn
  · exfalso; apply h
    unfold rayAt
    apply offboard_boundary b hr
    unfold OnBoard at ht
    obtain ⟨h1, h2, h3⟩ := hd
    -- one of the two coordinates moves, and eight steps take it off the inner board
    rcases h1 with e | e | e
    · rw [e]; omega
    · rw [e]; omega
    · rcases h2 with e' | e' | e'
      · rw [e']; omega
      · rw [e']; omega
      · exact absurd ⟨e, e'⟩ h3

theorem ray_short (b : Board) (hr : RingOK b) (t : Point) (ht : OnBoard t) (d : Int × Int) (hd : UnitDir d)
    (n : Nat) (h : rayAt b t d n ≠ .boundary) : n < 8 :=
  Nat.lt_succ_of_lt (ray_lt_seven b hr t ht d hd n h)

theorem ray_leaves (b : Board) (hr : RingOK b) (t : Point) (ht : OnBoard t) (d : Int × Int) (hd : UnitDir d) :
    (rayAt b t d 8).isEmpty = false := by
  cases h : (rayAt b t d 8).isEmpty with
  | false => rfl
  | true => exact absurd (ray_short b hr t ht d hd 8 (isEmpty_ne_boundary _ h)) (by decide)

theorem slideDir_walk (piece : Piece) (row col : Nat) (b : Board) (mode : Mode) (d : Int × Int) :
    slideDir piece row col b mode d =
      (if mode = .all then (walk b d.1 d.2 walkFuel ((row : Int) + d.1) ((col : Int) + d.2) []).1 else []) ++
        (if (walk b d.1 d.2 walkFuel ((row : Int) + d.1) ((col : Int) + d.2) []).2.2.isColor piece.color.opp
          then [(walk b d.1 d.2 walkFuel ((row : Int) + d.1) ((col : Int) + d.2) []).2.1] else []) := rfl

theorem slideDir_eq (piece : Piece) (row col : Nat) (b : Board) (mode : Mode) (d : Int × Int)
    (hr : RingOK b) (ht : OnBoard ⟨row, col⟩) (hd : UnitDir d) :
    ∃ n : Nat, n ≤ 8 ∧ (rayAt b ⟨row, col⟩ d n).isEmpty = false ∧
      (∀ i : Nat, i < n → (rayAt b ⟨row, col⟩ d i).isEmpty = true) ∧
      slideDir piece row col b mode d =
        (if mode = .all then (List.range n).map (rayPt ⟨row, col⟩ d) else []) ++
          (if (rayAt b ⟨row, col⟩ d n).isColor piece.color.opp then [rayPt ⟨row, col⟩ d n] else []) := by
  obtain ⟨n, hn, h1, h2, h3, h4, h5⟩ := walk_list b d.1 d.2 walkFuel ((row : Int) + d.1) ((col : Int) + d.2) [] 8
    (by decide) (ray_leaves b hr ⟨row, col⟩ ht d hd)
  refine ⟨n, hn, h3, h4, ?_⟩
  rw [slideDir_walk, h1, h2, h5]
  rfl

theorem mem_slideDir (piece : Piece) (row col : Nat) (b : Board) (mode : Mode) (d : Int × Int)
    (hr : RingOK b) (ht : OnBoard ⟨row, col⟩) (hd : UnitDir d) (pt : Point) :
    pt ∈ slideDir piece row col b mode d ↔
      ∃ n : Nat, pt = rayPt ⟨row, col⟩ d n ∧ (∀ i : Nat, i < n → (rayAt b ⟨row, col⟩ d i).isEmpty = true) ∧
        tgtOK mode piece.color (rayAt b ⟨row, col⟩ d n) = true := by
  obtain ⟨n0, -, h3, h4, e⟩ := slideDir_eq piece row col b mode d hr ht hd
  rw [e, List.mem_append]
  constructor
  · rintro (h | h)
    · split at h
      · rename_i hm
        obtain ⟨i, hi, rfl⟩ := List.mem_map.mp h
        have hi' := List.mem_range.mp hi
        exact ⟨i, rfl, fun j hj => h4 j (by omega), by rw [hm]; exact tgtOK_of_isEmpty _ _ (h4 i hi')⟩
      · cases h
    · split at h
      · rename_i hc
        exact ⟨n0, List.mem_singleton.mp h, h4, tgtOK_of_isColor _ _ _ hc⟩
      · cases h
  · rintro ⟨n, hpt, hemp, htg⟩
    rcases Nat.lt_trichotomy n n0 with hlt | heq | hgt
    · -- an empty square before the first hit: only in all-moves mode
      left
      have hm : mode = .all := by
        cases mode
        · rfl
        · have := isColor_not_empty _ _ htg
          rw [h4 n hlt] at this; cases this
      rw [if_pos hm]
      exact List.mem_map.mpr ⟨n, List.mem_range.mpr hlt, hpt.symm⟩
    · subst heq
      right
      have hc : (rayAt b ⟨row, col⟩ d n).isColor piece.color.opp = true := by
        unfold tgtOK at htg
        split at htg
        · exact ((isEmptyOrColor_iff _ _).mp htg).resolve_left (by rw [h3]; simp)
        · exact htg
      rw [if_pos hc]; exact List.mem_singleton.mpr hpt
    · have := hemp n0 hgt
      rw [h3] at this; cases this

/-- `rook_moves` / `bishop_moves`: `mem_slideDir` over the directions -/
theorem mem_slides (piece : Piece) (t : Point) (b : Board) (mode : Mode) (dirs : List (Int × Int)) (hr : RingOK b)
    (ht : OnBoard t) (hd : ∀ d ∈ dirs, UnitDir d) (pt : Point) :
    pt ∈ dirs.flatMap (slideDir piece t.row t.col b mode) ↔
      ∃ d ∈ dirs, ∃ n : Nat, pt = rayPt t d n ∧
        (∀ i : Nat, i < n → (rayAt b t d i).isEmpty = true) ∧ tgtOK mode piece.color (rayAt b t d n) = true := by
  rw [List.mem_flatMap]
  exact exists_congr fun d => and_congr_right fun hdm => mem_slideDir piece t.row t.col b mode d hr ht (hd d hdm) pt

theorem slideDir_tgtOK (piece : Piece) (row col : Nat) (b : Board) (mode : Mode) (d : Int × Int) :
    ∀ pt ∈ slideDir piece row col b mode d, tgtOK mode piece.color (b.get pt.row pt.col) = true := by
  intro pt hpt
  obtain ⟨hemp, hhit⟩ := walk_spec b d.1 d.2 walkFuel ((row : Int) + d.1) ((col : Int) + d.2)
  rw [slideDir_walk] at hpt
  rcases List.mem_append.mp hpt with h | h
  · split at h
    · rename_i hm; rw [hm]; exact tgtOK_of_isEmpty _ _ (hemp pt h)
    · cases h
  · split at h
    · rename_i hc
      rw [List.mem_singleton.mp h, ← hhit (isColor_ne_boundary _ _ hc)]
      exact tgtOK_of_isColor _ _ _ hc
    · cases h

theorem getMoves_tgtOK (piece : Piece) (row col : Nat) (b : Board) (mode : Mode) :
    ∀ pt ∈ getMoves piece row col b mode, tgtOK mode piece.color (b.get pt.row pt.col) = true := by
  intro pt hpt
  have slides : ∀ dirs : List (Int × Int), pt ∈ dirs.flatMap (slideDir piece row col b mode) →
      tgtOK mode piece.color (b.get pt.row pt.col) = true := fun dirs h => by
    obtain ⟨d, _, hd⟩ := List.mem_flatMap.mp h
    exact slideDir_tgtOK _ _ _ _ _ d pt hd
  unfold getMoves at hpt
  cases hk : piece.kind <;> simp only [hk] at hpt
  · exact pawnMoves_tgtOK _ _ _ _ _ pt hpt
  · obtain ⟨rc, -, rfl, ht⟩ := (mem_knightMoves _ _ _ _ _ _).mp hpt
    rw [get_ptI b _ _ (tgtOK_ne_boundary _ _ _ ht)]; exact ht
  · exact slides _ hpt
  · exact slides _ hpt
  · exact (List.mem_append.mp hpt).elim (slides _) (slides _)
  · obtain ⟨i, j, -, -, rfl, ht⟩ := (mem_kingMoves _ _ _ _ _ _).mp hpt
    exact ht

theorem getMoves_ne_boundary (piece : Piece) (row col : Nat) (b : Board) (mode : Mode) :
    ∀ pt ∈ getMoves piece row col b mode, b.get pt.row pt.col ≠ .boundary := fun pt hpt =>
  tgtOK_ne_boundary _ _ _ (getMoves_tgtOK piece row col b mode pt hpt)

theorem getMoves_onBoard (piece : Piece) (row col : Nat) (b : Board) (mode : Mode) (hr : RingOK b) :
    ∀ pt ∈ getMoves piece row col b mode, OnBoard pt := fun pt hpt =>
  hr pt.row pt.col (getMoves_ne_boundary piece row col b mode pt hpt)

end Walleye
