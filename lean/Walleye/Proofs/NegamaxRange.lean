/- One step of `Spec.negamax`: as an equation (`negamax_succ`: the value of a node from those of its
   children, `nodeValue`) and, read off it, as a case principle (`negamax_cases`); what the theorems about it ask of
   the game (`GameOK`, the hypothesis of `ab_spec` and of C10–C12: a bounded evaluation, and a value that
   does not depend on the ordering tag); its value range (`negamax_range`), its dependence on the table
   only through the counts (`negamax_congr`) and on the position only up to a bisimulation of the game
   (`negamax_bisim`), which is how a game is shown to meet `GameOK` (`GameOK.of_bisim`). -/
import Walleye.Proofs.Negamax
import Walleye.Proofs.Table
namespace Walleye
open Spec DrawTable

variable {P : Type} (g : Game P)

theorem negamax_repeated (fuel d ply : Nat) (t : DrawTable) (p : P) (h : t.isThreefold (g.key p) = true) :
    negamax g (fuel + 1) d ply t p = 0 := by
  simp only [negamax, h, if_true]

theorem negamax_mated (fuel d ply : Nat) (t : DrawTable) (p : P) (h3 : t.isThreefold (g.key p) = false)
    (hgen : g.gen p .all = []) (hchk : g.inCheck p = true) :
    negamax g (fuel + 1) d ply t p = -(Gen.mateScore - ply) := by
  simp only [negamax, h3, Bool.false_eq_true, if_false, hchk, not_true_eq_false, and_false, hgen, if_true]

/-- value of a node once it is known not to be a repetition, from the values `val` of its children:
    what `abBody` computes (`abBody_triple`, Proofs/AbSpec) -/
def nodeValue (val : P → Int) (p : P) (depth ply : Nat) : Int :=
  if depth = 0 ∧ ¬ g.inCheck p then qval g qFuel p
  else match g.gen p .all with
    | [] => if g.inCheck p then -(Gen.mateScore - ply) else 0
    | m :: ms => maxNeg val ms (- val m)

theorem nodeValue_quiesce (val : P → Int) {p : P} {depth : Nat} (ply : Nat) (hq : depth = 0 ∧ ¬ g.inCheck p = true) :
    nodeValue g val p depth ply = qval g qFuel p := if_pos hq

theorem nodeValue_moves (val : P → Int) {p : P} {depth : Nat} (ply : Nat) (hq : ¬ (depth = 0 ∧ ¬ g.inCheck p = true)) :
    nodeValue g val p depth ply = match g.gen p .all with
      | [] => if g.inCheck p then -(Gen.mateScore - ply) else 0
      | m :: ms => maxNeg val ms (- val m) := if_neg hq

theorem negamax_succ (fuel depth ply : Nat) (t : DrawTable) (p : P) (h3 : t.isThreefold (g.key p) = false) :
    negamax g (fuel + 1) depth ply t p =
      nodeValue g (negamax g fuel ((if depth = 0 then 1 else depth) - 1) (ply + 1) ((t.add (g.key p)).getD t)) p depth ply := by
  simp only [negamax, h3, Bool.false_eq_true, if_false, nodeValue]
  by_cases hc : depth = 0 ∧ ¬ g.inCheck p = true
  · rw [if_pos hc, if_pos hc]
  · rw [if_neg hc, if_neg hc]
    cases g.gen p .all <;> rfl

theorem negamax_cases (fuel d ply : Nat) (t : DrawTable) (p : P) :
    ∃ d' t', d' = (if d = 0 then 1 else d) - 1 ∧ t' = (t.add (g.key p)).getD t ∧
      let f := negamax g fuel d' (ply + 1) t'
      let v := negamax g (fuel + 1) d ply t p
      (t.isThreefold (g.key p) = true ∧ v = 0) ∨
      (d = 0 ∧ g.inCheck p = false ∧ v = qval g qFuel p) ∨
      (g.gen p .all = [] ∧ g.inCheck p = true ∧ v = -(Gen.mateScore - ply)) ∨
      (g.gen p .all = [] ∧ g.inCheck p = false ∧ v = 0) ∨
      (g.gen p .all ≠ [] ∧ (∀ y ∈ g.gen p .all, - f y ≤ v) ∧ ∃ y ∈ g.gen p .all, v = - f y) := by
  refine ⟨_, _, rfl, rfl, ?_⟩
  dsimp only
  cases h3 : t.isThreefold (g.key p) with
  | true => exact .inl ⟨rfl, negamax_repeated g fuel d ply t p h3⟩
  | false =>
    refine .inr ?_
    rw [negamax_succ g fuel d ply t p h3]
    by_cases hq : d = 0 ∧ ¬ g.inCheck p = true
    · exact .inl ⟨hq.1, by simpa using hq.2, nodeValue_quiesce g _ ply hq⟩
    rw [nodeValue_moves g _ ply hq]
    refine .inr ?_
    cases hgen : g.gen p .all with
    | nil =>
      cases hc : g.inCheck p with
      | true => exact .inl ⟨rfl, rfl, rfl⟩
      | false => exact .inr (.inl ⟨rfl, rfl, rfl⟩)
    | cons m ms =>
      exact .inr (.inr ⟨List.cons_ne_nil _ _, (headMax_le_iff _ m ms _).mp (Int.le_refl _), headMax_attained _ m ms⟩)

structure GameOK (E : Nat) : Prop where
  evalB : ∀ p, -(E : Int) ≤ g.eval p ∧ g.eval p ≤ E
  ohV : ∀ fuel d ply t m x, negamax g fuel d ply t (g.withOh m x) = negamax g fuel d ply t m

theorem qval_bound (E : Nat) (hg : GameOK g E) : ∀ fuel p, -(E : Int) ≤ qval g fuel p ∧ qval g fuel p ≤ E := by
  intro fuel
  induction fuel with
  | zero => exact hg.evalB
  | succ n ih =>
    intro p
    have ⟨h1, h2⟩ := hg.evalB p
    exact ⟨Int.le_trans h1 (maxNeg_ge _ _ _), (maxNeg_le_iff _ _ _ _).mpr ⟨h2, fun m _ => by have := ih m; omega⟩⟩

/-- the hypothesis keeps the evaluation bound below the mate band at every ply that can be reached
    with the fuel at hand -/
theorem negamax_range (E : Nat) (hg : GameOK g E) :
    ∀ (fuel d ply : Nat) (t : DrawTable) (p : P), (E : Int) + ply + fuel < Gen.mateScore →
      -(Gen.mateScore - ply) ≤ negamax g fuel d ply t p ∧ negamax g fuel d ply t p ≤ Gen.mateScore - ply - 1 := by
  intro fuel
  induction fuel with
  | zero =>
    intro d ply t p hb
    have := hg.evalB p
    simp only [negamax]
    omega
  | succ n ih =>
    intro d ply t p hb
    obtain ⟨d', t', _, _, h⟩ := negamax_cases g n d ply t p
    rcases h with ⟨_, e⟩ | ⟨_, _, e⟩ | ⟨_, _, e⟩ | ⟨_, _, e⟩ | ⟨_, _, y, _, e⟩
    · omega
    · have := qval_bound g E hg qFuel p; omega
    · omega
    · omega
    · have := ih d' (ply + 1) t' y (by omega)
      omega

theorem negamax_congr : ∀ fuel d ply (t t' : DrawTable) p, TableEq t t' →
    negamax g fuel d ply t p = negamax g fuel d ply t' p := by
  intro fuel
  induction fuel with
  | zero => intro d ply t t' p _; rfl
  | succ n ih =>
    intro d ply t t' p h
    simp only [negamax]
    have hf : negamax g n ((if d = 0 then 1 else d) - 1) (ply + 1) _ = _ :=
      funext fun x => ih _ _ _ _ x (add_congr h (g.key p))
    rw [isThreefold_congr h, hf]

inductive ListRel {α : Type} (R : α → α → Prop) : List α → List α → Prop where
  | nil : ListRel R [] []
  | cons {a b : α} {as bs : List α} : R a b → ListRel R as bs → ListRel R (a :: as) (b :: bs)

theorem ListRel.refl {α : Type} {R : α → α → Prop} (hR : ∀ a, R a a) : ∀ l : List α, ListRel R l l
  | [] => .nil
  | a :: as => .cons (hR a) (ListRel.refl hR as)

theorem ListRel.append {α : Type} {R : α → α → Prop} {a b c d : List α} (h1 : ListRel R a b) (h2 : ListRel R c d) :
    ListRel R (a ++ c) (b ++ d) := by
  induction h1 with
  | nil => exact h2
  | cons hr _ ih => exact .cons hr ih

theorem ListRel.flatMap {α β : Type} {R : α → α → Prop} (l : List β) (f g : β → List α)
    (hfg : ∀ x ∈ l, ListRel R (f x) (g x)) : ListRel R (l.flatMap f) (l.flatMap g) := by
  induction l with
  | nil => exact .nil
  | cons x xs ih =>
    simp only [List.flatMap_cons]
    exact ListRel.append (hfg x (by simp)) (ih (fun y hy => hfg y (by simp [hy])))

structure Bisim (R : P → P → Prop) : Prop where
  eval : ∀ p q, R p q → g.eval p = g.eval q
  key : ∀ p q, R p q → g.key p = g.key q
  inCheck : ∀ p q, R p q → g.inCheck p = g.inCheck q
  gen : ∀ p q mode, R p q → ListRel R (g.gen p mode) (g.gen q mode)

variable {g} {R : P → P → Prop}

theorem maxNeg_rel (f : P → Int) (hf : ∀ a b, R a b → f a = f b) (l l' : List P) (hl : ListRel R l l')
    (acc : Int) : maxNeg f l acc = maxNeg f l' acc := by
  induction hl generalizing acc with
  | nil => rfl
  | cons hr _ ih => simp only [maxNeg, hf _ _ hr]; exact ih _

theorem qval_bisim (hb : Bisim g R) : ∀ (fuel : Nat) (p q : P), R p q → qval g fuel p = qval g fuel q := by
  intro fuel
  induction fuel with
  | zero => intro p q hpq; exact hb.eval p q hpq
  | succ n ih =>
    intro p q hpq
    simp only [qval]
    rw [hb.eval p q hpq]
    exact maxNeg_rel _ ih _ _ (hb.gen p q .caps hpq) _

theorem negamax_bisim (hb : Bisim g R) : ∀ (fuel d ply : Nat) (t : DrawTable) (p q : P), R p q →
    negamax g fuel d ply t p = negamax g fuel d ply t q := by
  intro fuel
  induction fuel with
  | zero => intro d ply t p q hpq; exact hb.eval p q hpq
  | succ n ih =>
    intro d ply t p q hpq
    simp only [negamax]
    rw [hb.key p q hpq, hb.inCheck p q hpq, qval_bisim hb qFuel p q hpq]
    have hgen := hb.gen p q .all hpq
    generalize g.gen p .all = lp at hgen ⊢
    generalize g.gen q .all = lq at hgen ⊢
    cases hgen with
    | nil => rfl
    | cons hr hrest =>
      dsimp only
      rw [ih _ _ _ _ _ hr, maxNeg_rel _ (ih _ _ _) _ _ hrest]

theorem GameOK.of_bisim {E : Nat} (hb : Bisim g R) (hE : ∀ p, -(E : Int) ≤ g.eval p ∧ g.eval p ≤ E)
    (hoh : ∀ m x, R (g.withOh m x) m) : GameOK g E :=
  ⟨hE, fun fuel d ply t m x => negamax_bisim hb fuel d ply t _ _ (hoh m x)⟩

end Walleye
